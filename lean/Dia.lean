import Dia.Props.C01
import Dia.Props.C02
import Dia.Props.C03
import Dia.Props.C04
import Dia.Props.C05
import Dia.Props.C06
import Dia.Props.C07
import Dia.Props.C08
import Dia.Props.C09
import Dia.Props.C10
import Dia.Props.C11
import Dia.Props.C12
import Dia.Props.C13
import Dia.Props.C14
import Dia.Props.C15
import Dia.Props.C16
import Dia.Props.C17
import Dia.Props.C18
import Dia.GlueThm
