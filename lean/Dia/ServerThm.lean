import Dia.Server
import Dia.CodecThm
/-! The per-connection loop of the server: `write_all` over a script of `poll_write` outcomes, the equations of one turn of
the loop, then the loop after a prefix of good requests (`serve_prefix`), under write failures at any point
(`serve_write_any_rest`), and under a reset instead of a close (`serve_toEof`). -/
namespace Dia

def WEv.good : WEv → Prop
  | .accept k => 0 < k
  | .pending => True
  | .fail => False

def neverFails (w : List WEv) : Prop := ∀ e ∈ w, e.good

/-- C06, write side (`C06_write`) -/
theorem writeAll_ok : ∀ (bs : Bytes) (w : List WEv), neverFails w →
    ∃ w', writeAll bs w = (true, bs, w') ∧ neverFails w' := by
  intro bs w hw
  fun_induction writeAll bs w with
  | case3 _ _ _ ih => exact ih (List.forall_mem_cons.mp hw).2
  | case4 => exact (List.forall_mem_cons.mp hw).1.elim
  | case5 => exact absurd (List.forall_mem_cons.mp hw).1 (Nat.lt_irrefl 0)
  | case6 => exact ⟨_, rfl, (List.forall_mem_cons.mp hw).2⟩
  | case7 b bs k w _ _ ok wr w' hx ih =>
    obtain ⟨w'', h1, h2⟩ := ih (List.forall_mem_cons.mp hw).2
    rw [hx] at h1
    cases h1
    exact ⟨w', by rw [List.take_append_drop], h2⟩
  | _ => exact ⟨_, rfl, hw⟩

/-- whatever the write script does, what `write_all` put on the stream is a prefix of what it was given, and all of
it when it reports success -/
theorem writeAll_prefix : ∀ (bs : Bytes) (w : List WEv),
    (writeAll bs w).2.1 <+: bs ∧ ((writeAll bs w).1 = true → (writeAll bs w).2.1 = bs) := by
  intro bs w
  fun_induction writeAll bs w with
  | case3 _ _ _ ih => exact ih
  | case7 b bs k w _ _ ok wr w' hx ih =>
    rw [hx] at ih
    obtain ⟨⟨t, ht⟩, h2⟩ := ih
    dsimp only at ht h2 ⊢
    refine ⟨⟨t, ?_⟩, fun hok => ?_⟩
    · rw [List.append_assoc, ht, List.take_append_drop]
    · rw [h2 hok, List.take_append_drop]
  | _ => simp

section
variable {cfg : Cfg} {dict : Lookup} {evs : List REv}

theorem serve_eof (hs : List HRes) (w : List WEv) (h : (Codec.decode cfg dict evs).out = .err .eof) :
    serve cfg dict hs evs w = ⟨[], [], true⟩ := by
  rw [serve]
  simp [h]

theorem serve_no_msg (hs : List HRes) (w : List WEv) (h : ∀ m, (Codec.decode cfg dict evs).out ≠ .ok m) :
    (serve cfg dict hs evs w).calls = [] ∧ (serve cfg dict hs evs w).written = [] := by
  rw [serve]
  split
  · exact absurd ‹_› (h _)
  all_goals exact ⟨rfl, rfl⟩

theorem serve_handler_err {req : Msg} (hs : List HRes) (w : List WEv) (h : (Codec.decode cfg dict evs).out = .ok req) :
    serve cfg dict (.err :: hs) evs w = ⟨[req], [], false⟩ := by
  rw [serve]
  simp [h]

theorem serve_unencodable {req ans : Msg} (hs : List HRes) (w : List WEv) (h : (Codec.decode cfg dict evs).out = .ok req)
    (he : ans.enc.err ≠ none) : serve cfg dict (.ok ans :: hs) evs w = ⟨[req], [], false⟩ := by
  rw [serve]
  cases hx : ans.enc.err with
  | none => exact absurd hx he
  | some e => simp [h, hx]

/-- a request is read and the handler's answer can be encoded: the turn is decided by `write_all` -/
theorem serve_answer {req ans : Msg} {evs' : List REv} {n : Nat} (hs : List HRes) (w : List WEv)
    (hd : Codec.decode cfg dict evs = ⟨.ok req, evs', n⟩) (he : ans.enc.err = none) :
    serve cfg dict (.ok ans :: hs) evs w =
      match writeAll ans.enc.bytes w with
      | (true, wr, w') => (serve cfg dict hs evs' w').cons req wr
      | (false, wr, _) => ⟨[req], wr, false⟩ := by
  rw [serve]
  simp only [hd, he]
  rcases writeAll ans.enc.bytes w with ⟨_ | _, wr, w'⟩ <;> rfl

end

def ServeLog.prepend (rs : List Msg) (bs : Bytes) (l : ServeLog) : ServeLog := ⟨rs ++ l.calls, bs ++ l.written, l.clean⟩

theorem ServeLog.prepend_nil (l : ServeLog) : l.prepend [] [] = l := by
  simp [ServeLog.prepend]

theorem ServeLog.cons_prepend (req : Msg) (wr : Bytes) (rs : List Msg) (bs : Bytes) (l : ServeLog) :
    (l.prepend rs bs).cons req wr = l.prepend (req :: rs) (wr ++ bs) := by
  simp [ServeLog.prepend, ServeLog.cons]

/-- after `k` acceptable requests, answered without encoding error over a writer that never fails, the loop is in
the state "serve the rest of the script", having called the handler with exactly those requests and written exactly
their answers -/
theorem serve_prefix (cfg : Cfg) (dict : Lookup) :
    ∀ (frames : List Bytes) (reqs answers : List Msg) (hs : List HRes) (evs : List REv) (rest : Bytes) (w : List WEv),
    frames.length = reqs.length → answers.length = reqs.length →
    (∀ i (h1 : i < frames.length) (h2 : i < reqs.length), Accepts cfg dict frames[i] reqs[i]) →
    (∀ a ∈ answers, a.enc.err = none) →
    noEmpty evs → flat evs = frames.flatten ++ rest → neverFails w →
    ∃ evs' w', flat evs' = rest ∧ noEmpty evs' ∧ neverFails w' ∧
      serve cfg dict (answers.map .ok ++ hs) evs w =
        (serve cfg dict hs evs' w').prepend reqs (answers.map (fun a => a.enc.bytes)).flatten := by
  intro frames reqs answers hs evs rest w hl1 hl2 hacc henc hne hflat hw
  revert answers w
  refine Accepts.stream_induct ?_ ?_ frames reqs evs hl1 hacc hne hflat
  · intro evs hne hflat answers w hl2 _ hw
    obtain rfl := List.eq_nil_of_length_eq_zero hl2
    exact ⟨evs, w, hflat, hne, hw, (ServeLog.prepend_nil _).symm⟩
  · intro f fs req reqs evs evs1 hd ih answers w hl2 henc hw
    obtain ⟨ans, answers, rfl⟩ := List.exists_cons_of_length_eq_add_one hl2
    obtain ⟨he, henc⟩ := List.forall_mem_cons.mp henc
    obtain ⟨w1, hwr, hw1⟩ := writeAll_ok ans.enc.bytes w hw
    obtain ⟨evs', w', g1, g2, g3, g4⟩ := ih answers w1 (by simpa using hl2) henc hw1
    refine ⟨evs', w', g1, g2, g3, ?_⟩
    rw [List.map_cons, List.cons_append, serve_answer _ _ hd he, hwr]
    simp [g4, ServeLog.cons_prepend]

/-- C08 (`C08_all_good`): `serve_prefix` with nothing behind the frames -/
theorem serve_all_good (cfg : Cfg) (dict : Lookup) :
    ∀ (frames : List Bytes) (reqs answers : List Msg) (evs : List REv) (w : List WEv),
    frames.length = reqs.length → answers.length = reqs.length →
    (∀ i (h1 : i < frames.length) (h2 : i < reqs.length), Accepts cfg dict frames[i] reqs[i]) →
    (∀ a ∈ answers, a.enc.err = none) →
    noEmpty evs → flat evs = frames.flatten → neverFails w →
    (serve cfg dict (answers.map .ok) evs w).calls = reqs ∧
    (serve cfg dict (answers.map .ok) evs w).written = (answers.map (fun a => a.enc.bytes)).flatten ∧
    (serve cfg dict (answers.map .ok) evs w).clean = true := by
  intro frames reqs answers evs w hl1 hl2 hacc henc hne hflat hw
  obtain ⟨evs', w', g1, g2, _, g4⟩ := serve_prefix cfg dict frames reqs answers [] evs [] w hl1 hl2 hacc henc hne
    (by simpa using hflat) hw
  rw [List.append_nil] at g4
  rw [g4, serve_eof _ _ (Codec.decode_end cfg dict evs' g2 g1)]
  simp [ServeLog.prepend]

/-- read cut and write failures together: `frames` arrive completely, what follows (`rest`) yields no message, the write side may
stall, accept partially and fail anywhere (`C09_cut_both`, `C09_refused_both` say what this means for a connection) -/
theorem serve_write_any_rest (cfg : Cfg) (dict : Lookup) :
    ∀ (frames : List Bytes) (reqs answers : List Msg) (rest : Bytes) (evs : List REv) (w : List WEv),
    frames.length = reqs.length → answers.length = reqs.length →
    (∀ i (h1 : i < frames.length) (h2 : i < reqs.length), Accepts cfg dict frames[i] reqs[i]) →
    (∀ a ∈ answers, a.enc.err = none) →
    noEmpty evs → flat evs = frames.flatten ++ rest →
    (∀ evs2, noEmpty evs2 → flat evs2 = rest → ∀ m, (Codec.decode cfg dict evs2).out ≠ .ok m) →
    ∃ k, k ≤ reqs.length ∧ (serve cfg dict (answers.map .ok) evs w).calls = reqs.take k ∧
      ((answers.take (k - 1)).map (fun a => a.enc.bytes)).flatten <+: (serve cfg dict (answers.map .ok) evs w).written ∧
      (serve cfg dict (answers.map .ok) evs w).written <+: ((answers.take k).map (fun a => a.enc.bytes)).flatten := by
  intro frames reqs answers rest evs w hl1 hl2 hacc henc hne hflat hrest
  revert answers w
  refine Accepts.stream_induct ?_ ?_ frames reqs evs hl1 hacc hne hflat
  · intro evs hne hflat answers w _ _
    obtain ⟨c, wr⟩ := serve_no_msg (answers.map .ok) w (hrest evs hne hflat)
    exact ⟨0, Nat.zero_le _, by rw [c]; rfl, List.nil_prefix, by rw [wr]; exact List.nil_prefix⟩
  · intro f fs req reqs evs evs1 hd ih answers w hl2 henc
    obtain ⟨ans, answers, rfl⟩ := List.exists_cons_of_length_eq_add_one hl2
    obtain ⟨he, henc⟩ := List.forall_mem_cons.mp henc
    have hp := writeAll_prefix ans.enc.bytes w
    rw [List.map_cons, serve_answer _ _ hd he]
    generalize writeAll ans.enc.bytes w = r at hp ⊢
    obtain ⟨_ | _, wr, w1⟩ := r
    · exact ⟨1, by simp, rfl, List.nil_prefix, by simpa using hp.1⟩
    · obtain rfl : wr = ans.enc.bytes := hp.2 rfl
      obtain ⟨k, hk, c1, c2, c3⟩ := ih answers w1 (by simpa using hl2) henc
      refine ⟨k + 1, Nat.succ_le_succ hk, by simp [ServeLog.cons, c1], ?_, ?_⟩
      · cases k with
        | zero => simp
        | succ k => simpa [ServeLog.cons] using c2
      · simpa [ServeLog.cons] using c3

/-- its case `rest = []` (`C09_write_cut`) -/
theorem serve_write_any (cfg : Cfg) (dict : Lookup) :
    ∀ (frames : List Bytes) (reqs answers : List Msg) (evs : List REv) (w : List WEv),
    frames.length = reqs.length → answers.length = reqs.length →
    (∀ i (h1 : i < frames.length) (h2 : i < reqs.length), Accepts cfg dict frames[i] reqs[i]) →
    (∀ a ∈ answers, a.enc.err = none) →
    noEmpty evs → flat evs = frames.flatten →
    ∃ k, k ≤ reqs.length ∧ (serve cfg dict (answers.map .ok) evs w).calls = reqs.take k ∧
      ((answers.take (k - 1)).map (fun a => a.enc.bytes)).flatten <+: (serve cfg dict (answers.map .ok) evs w).written ∧
      (serve cfg dict (answers.map .ok) evs w).written <+: ((answers.take k).map (fun a => a.enc.bytes)).flatten := by
  intro frames reqs answers evs w hl1 hl2 hacc henc hne hflat
  exact serve_write_any_rest cfg dict frames reqs answers [] evs w hl1 hl2 hacc henc hne (by simpa using hflat)
    (fun evs2 hne2 hfl2 m hm => by rw [Codec.decode_end cfg dict evs2 hne2 hfl2] at hm; cases hm)

/-- the same script with every read error replaced by end of stream -/
def toEof : List REv → List REv
  | [] => []
  | .fail :: r => .eof :: toEof r
  | e :: r => e :: toEof r

def RO.eofy : RO → RO
  | .ioerr g => .eof g
  | o => o

theorem RO.eofy_prepend (b : Bytes) (o : RO) : (o.prepend b).eofy = o.eofy.prepend b := by
  cases o <;> rfl

theorem readExact_toEof : ∀ (n : Nat) (evs : List REv),
    readExact n (toEof evs) = ((readExact n evs).1.eofy, toEof (readExact n evs).2) := by
  intro n evs
  fun_induction readExact n evs with
  | case3 _ _ ih => simp only [toEof, readExact]; exact ih
  | case7 => simp [*, toEof, readExact, RO.eofy]; split <;> simp [toEof]
  | case8 n bs r _ _ o r' hx ih => rw [hx] at ih; simp [*, toEof, readExact, RO.eofy_prepend]
  | _ => simp [*, toEof, readExact, RO.eofy]

def COut.eofy : COut → COut
  | .err .io => .err .eof
  | o => o

theorem Codec.decode_toEof (cfg : Cfg) (dict : Lookup) (evs : List REv) :
    Codec.decode cfg dict (toEof evs) =
      ⟨(Codec.decode cfg dict evs).out.eofy, toEof (Codec.decode cfg dict evs).rest, (Codec.decode cfg dict evs).consumed⟩ := by
  unfold Codec.decode
  rw [readExact_toEof]
  rcases readExact 4 evs with ⟨p | g | g, evs1⟩ <;> simp only [RO.eofy]
  · split
    · rfl
    split
    · rfl
    split
    · rfl
    rw [readExact_toEof]
    rcases readExact (fromBe (p.drop 1) - 4) evs1 with ⟨body | g | g, evs2⟩ <;> simp only [RO.eofy]
    · cases decMsg cfg dict (p ++ body) <;> rfl
    · rfl
    · rfl
  · rfl
  · rfl

/-- a reset is as harmless as a close (`C09_reset_like_close`) -/
theorem serve_toEof (cfg : Cfg) (dict : Lookup) : ∀ (hs : List HRes) (evs : List REv) (w : List WEv),
    (serve cfg dict hs (toEof evs) w).calls = (serve cfg dict hs evs w).calls ∧
    (serve cfg dict hs (toEof evs) w).written = (serve cfg dict hs evs w).written
  | hs, evs, w => by
    rw [serve, serve, Codec.decode_toEof]
    cases (Codec.decode cfg dict evs).out with
    | panic => exact ⟨rfl, rfl⟩
    | err e => cases e <;> exact ⟨rfl, rfl⟩
    | ok req =>
      simp only [COut.eofy]
      match hs with
      | [] | .err :: _ => exact ⟨rfl, rfl⟩
      | .ok ans :: hs' =>
        simp only
        split
        · exact ⟨rfl, rfl⟩
        split
        · obtain ⟨i1, i2⟩ := serve_toEof cfg dict hs' (Codec.decode cfg dict evs).rest (writeAll ans.enc.bytes w).2.2
          exact ⟨congrArg (req :: ·) i1, congrArg (_ ++ ·) i2⟩
        · exact ⟨rfl, rfl⟩
termination_by hs => hs.length

end Dia
