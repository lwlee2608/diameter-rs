import Dia.Dict
/-! The ordered-map model of the dictionary: the key order, `insertKV` and `lookupKV`. -/
namespace Dia

/-- the derived order is the order of the naturals under this numbering -/
def Key.rank : Key → Nat
  | .code c => c.toNat
  | .cv c v => (c.toNat + 1) * 2 ^ 32 + v.toNat

theorem Key.lt_iff_rank : ∀ a b : Key, a.lt b = true ↔ a.rank < b.rank
  | .code a, .code b => by simp [Key.lt, Key.rank, UInt32.lt_iff_toNat_lt]
  | .code a, .cv b w => by have := a.toNat_lt; simp [Key.lt, Key.rank]; omega
  | .cv a v, .code b => by have := b.toNat_lt; simp [Key.lt, Key.rank]; omega
  | .cv a v, .cv b w => by
    have := v.toNat_lt; have := w.toNat_lt
    simp [Key.lt, Key.rank, UInt32.lt_iff_toNat_lt, ← UInt32.toNat_inj]; omega

theorem Key.rank_inj : ∀ {a b : Key}, a.rank = b.rank → a = b
  | .code a, .code b, h => by simpa [Key.rank, UInt32.toNat_inj] using h
  | .code a, .cv b w, h => by have := a.toNat_lt; simp [Key.rank] at h; omega
  | .cv a v, .code b, h => by have := b.toNat_lt; simp [Key.rank] at h; omega
  | .cv a v, .cv b w, h => by
    have := v.toNat_lt; have := w.toNat_lt
    simp [Key.rank] at h; simp [← UInt32.toNat_inj]; omega

theorem Key.lt_irrefl (k : Key) : k.lt k = false :=
  Bool.eq_false_iff.mpr fun h => Nat.lt_irrefl _ ((Key.lt_iff_rank k k).mp h)

theorem Key.lt_trans {a b c : Key} (h1 : a.lt b = true) (h2 : b.lt c = true) : a.lt c = true :=
  (Key.lt_iff_rank a c).mpr (Nat.lt_trans ((Key.lt_iff_rank a b).mp h1) ((Key.lt_iff_rank b c).mp h2))

theorem Key.lt_asymm {a b : Key} (h : a.lt b = true) : b.lt a = false :=
  Bool.eq_false_iff.mpr fun h' => Nat.lt_asymm ((Key.lt_iff_rank a b).mp h) ((Key.lt_iff_rank b a).mp h')

theorem Key.lt_total (a b : Key) : a = b ∨ a.lt b = true ∨ b.lt a = true := by
  simp only [Key.lt_iff_rank]
  rcases Nat.lt_trichotomy a.rank b.rank with h | h | h
  · exact .inr (.inl h)
  · exact .inl (Key.rank_inj h)
  · exact .inr (.inr h)

/-- `get` after `insert`: the new definition under its own key, everything else untouched -/
theorem lookup_insert (l : List (Key × Def)) (k k' : Key) (d : Def) :
    lookupKV (insertKV l k d) k' = if k = k' then some d else lookupKV l k' := by
  fun_induction insertKV l k d <;> grind [lookupKV]

/-- keys strictly increasing (the `BTreeMap` invariant) -/
def SortedKV : List (Key × Def) → Prop
  | [] => True
  | x :: xs => (∀ y ∈ xs, x.1.lt y.1 = true) ∧ SortedKV xs

theorem mem_insertKV {l : List (Key × Def)} {k : Key} {d : Def} {y : Key × Def} (h : y ∈ insertKV l k d) :
    y = (k, d) ∨ y ∈ l := by
  fun_induction insertKV l k d <;> grind

theorem sorted_insertKV (l : List (Key × Def)) (k : Key) (d : Def) (hs : SortedKV l) : SortedKV (insertKV l k d) := by
  fun_induction insertKV l k d
  case case1 => simp [SortedKV]
  case case2 => exact hs                          -- the head is replaced
  case case3 k' d' rest k d hne hlt =>            -- the new pair goes in front of the head
    exact ⟨fun y hy => by
      rcases List.mem_cons.mp hy with rfl | hy
      · exact hlt
      · exact Key.lt_trans hlt (hs.1 y hy), hs⟩
  case case4 k' d' rest k d hne hlt ih =>         -- ... or somewhere behind it
    refine ⟨fun y hy => ?_, ih hs.2⟩
    rcases mem_insertKV hy with rfl | hy
    · exact ((Key.lt_total k' k).resolve_left hne).resolve_right (by simp [hlt])
    · exact hs.1 y hy

/-- in a sorted list every stored pair is what `get` returns for its key: nothing is shadowed -/
theorem lookup_of_mem {l : List (Key × Def)} (hs : SortedKV l) {k : Key} {d : Def} (h : (k, d) ∈ l) :
    lookupKV l k = some d := by
  fun_induction lookupKV l k
  case case1 => cases h
  case case2 d' rest k =>
    -- a second entry under the head's key would have to sort strictly after it
    rcases List.mem_cons.mp h with e | h'
    · cases e; rfl
    · have := hs.1 _ h'; rw [Key.lt_irrefl] at this; cases this
  case case3 k' d' rest k hne ih =>
    rcases List.mem_cons.mp h with e | h'
    · cases e; exact absurd rfl hne
    · exact ih hs.2 h'

theorem mem_of_lookup {l : List (Key × Def)} {k : Key} {d : Def} (h : lookupKV l k = some d) : (k, d) ∈ l := by
  fun_induction lookupKV l k <;> grind

end Dia
