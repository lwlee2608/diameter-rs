import Dia.ClientMulti
/-! The invariant of the multi-connection client transition system (all runs, all peers, all interleavings). The enabled
steps are stated as a relation (`Step`, exactly `step`) and the proofs go by its cases: each case names the clauses the step
can affect and what each of them rests on; the others are carried over (`{ hi with .. }`). -/
namespace Dia.Cl

section upd
variable {α : Type} {f : Nat → α} {k x : Nat} {v y : α}

/-- `grind` unfolds `upd` by this. It does so too late where it has to find a reader or a waiter itself (goals `∃ c, ..`):
there the proofs unfold beforehand (`simp only [upd]`), so that the search sees `s.reader c`. -/
@[grind =] theorem upd_apply : upd f k v x = if x = k then v else f x := rfl

theorem upd_same : upd f k v k = v := if_pos rfl

/-- whoever holds a value other than the one just written held it before -/
theorem old_of_upd (h : upd f k v x = y) (hv : v ≠ y) : f x = y := by
  grind

/-- whoever held a value keeps it when the overwritten entry held another -/
theorem upd_of_old (hk : f k ≠ y) (h : f x = y) : upd f k v x = y := by
  grind

theorem forall_upd {P : α → Prop} (hv : P v) (hf : ∀ x, P (f x)) (x : Nat) : P (upd f k v x) := by
  grind

end upd

/-- taking the head off wire `c` adds nothing to any wire -/
theorem mem_of_mem_upd_tail {wire : Nat → List Item} {c c' : Nat} {it i : Item} {rest : List Item}
    (hw : wire c = it :: rest) (h : i ∈ upd wire c rest c') : i ∈ wire c' := by
  grind

@[grind =] theorem mem_upd_append {wire : Nat → List Item} {c c' : Nat} {it i : Item} :
    i ∈ upd wire c (wire c ++ [it]) c' ↔ i ∈ wire c' ∨ c' = c ∧ i = it := by
  grind

/-- `emitted` only grows when the peer emits -/
theorem mem_emit {m : Msg} {it : Item} {l : List Msg} (h : m ∈ l) :
    m ∈ (match it with | .msg m' => m' :: l | .bad => l) := by
  cases it <;> simp [h]

end Dia.Cl

namespace Dia.Cm
open Dia.Cl (Msg Item Reader upd upd_same old_of_upd upd_of_old mem_of_mem_upd_tail mem_upd_append mem_emit)

structure Inv (s : St) : Prop where
  cache_ok : ∀ h w, s.cache h = some w → w < s.nW ∧ s.hbhOf w = h ∧ s.status w = .pending
  got_ok : ∀ w m, w < s.nW → s.status w = .got m → m.hbh = s.hbhOf w ∧ m ∈ s.emitted
  dec_ok : ∀ c m, s.reader c = .decoded m → m ∈ s.emitted
  rem_ok : ∀ c m w, s.reader c = .removed m w →
      m ∈ s.emitted ∧ w < s.nW ∧ s.hbhOf w = m.hbh ∧ s.status w = .pending ∧ s.cache (s.hbhOf w) ≠ some w
  rem_uniq : ∀ c c' m m' w, s.reader c = .removed m w → s.reader c' = .removed m' w → c = c'
  wire_ok : ∀ c m, Item.msg m ∈ s.wire c → m ∈ s.emitted
  pending_ok : ∀ w, w < s.nW → s.status w = .pending →
      s.cache (s.hbhOf w) = some w ∨ ∃ c m, s.reader c = .removed m w
  closed_ok : s.closed = true → ∀ h, s.cache h = none
  stopped_ok : ∀ c, s.reader c = .stopped → s.closed = true

theorem inv_init : Inv init := by
  constructor <;> simp [init]

/-- the clauses of `Inv` that do not speak of `closed`. They are an invariant by themselves, and they are what `Inv` shares
with the invariant `Cl.Inv` of the single-connection model, which says something else about `closed`
(`Dia/ClientThm.lean`). -/
structure Inv₀ (s : St) : Prop where
  cache_ok : ∀ h w, s.cache h = some w → w < s.nW ∧ s.hbhOf w = h ∧ s.status w = .pending
  got_ok : ∀ w m, w < s.nW → s.status w = .got m → m.hbh = s.hbhOf w ∧ m ∈ s.emitted
  dec_ok : ∀ c m, s.reader c = .decoded m → m ∈ s.emitted
  rem_ok : ∀ c m w, s.reader c = .removed m w →
      m ∈ s.emitted ∧ w < s.nW ∧ s.hbhOf w = m.hbh ∧ s.status w = .pending ∧ s.cache (s.hbhOf w) ≠ some w
  rem_uniq : ∀ c c' m m' w, s.reader c = .removed m w → s.reader c' = .removed m' w → c = c'
  wire_ok : ∀ c m, Item.msg m ∈ s.wire c → m ∈ s.emitted
  pending_ok : ∀ w, w < s.nW → s.status w = .pending →
      s.cache (s.hbhOf w) = some w ∨ ∃ c m, s.reader c = .removed m w

/-- the waiters after `s.nW` has been registered under `hb`: whoever was registered under `hb` before is dropped -/
theorem status_register (s : St) (hb : Nat) :
    (match s.cache hb with
      | some old => upd (upd s.status s.nW .pending) old .dropped
      | none => upd s.status s.nW .pending) =
    fun w => if s.cache hb = some w then .dropped else if w = s.nW then .pending else s.status w := by
  cases s.cache hb <;> funext w <;> simp [upd, eq_comm]

/-- The enabled steps, one constructor per branch of `step`, each with the guard under which the branch is taken. -/
inductive Step (s : St) : Label → St → Prop
  | connect : s.send = .idle → Step s .connect { s with nC := s.nC + 1 }
  | refuse (hb : Nat) : s.send = .idle → s.nC = 0 ∨ s.closed = true → Step s (.sendBegin hb) s
  | register (hb : Nat) : s.send = .idle → s.nC ≠ 0 → s.closed = false → Step s (.sendBegin hb) { s with
      nW := s.nW + 1, hbhOf := upd s.hbhOf s.nW hb, cache := upd s.cache hb (some s.nW), send := .registered s.nW,
      sentOn := upd s.sentOn s.nW (s.nC - 1),
      status := fun w => if s.cache hb = some w then .dropped else if w = s.nW then .pending else s.status w }
  | write (w : Nat) : s.send = .registered w ∨ s.send = .writing w →
      Step s .write { s with send := .writing w, started := s.hbhOf w :: s.started }
  | sendReturn (w : Nat) : s.send = .writing w → Step s .sendReturn { s with send := .idle }
  | sendFail : s.send ≠ .idle → Step s .sendFail { s with send := .idle }
  | emit (c : Nat) (it : Item) : c < s.nC → Step s (.peerEmit c it) { s with
      wire := upd s.wire c (s.wire c ++ [it]), emitted := match it with | .msg m => m :: s.emitted | .bad => s.emitted }
  | decode (c : Nat) (m : Msg) (rest : List Item) : c < s.nC → s.reader c = .running → s.wire c = .msg m :: rest →
      Step s (.readerDecode c) { s with wire := upd s.wire c rest, reader := upd s.reader c (.decoded m) }
  | undecodable (c : Nat) (rest : List Item) : c < s.nC → s.reader c = .running → s.wire c = .bad :: rest →
      Step s (.readerDecode c) { s with wire := upd s.wire c rest, reader := upd s.reader c .stopping }
  | remove (c : Nat) (m : Msg) (w : Nat) : s.reader c = .decoded m → s.cache m.hbh = some w →
      Step s (.readerRemove c) { s with cache := upd s.cache m.hbh none, reader := upd s.reader c (.removed m w) }
  | unmatched (c : Nat) (m : Msg) : s.reader c = .decoded m → s.cache m.hbh = none →
      Step s (.readerRemove c) { s with reader := upd s.reader c .stopping }
  | deliver (c : Nat) (m : Msg) (w : Nat) : s.reader c = .removed m w →
      Step s (.readerDeliver c) { s with status := upd s.status w (.got m), reader := upd s.reader c .running }
  | stop (c : Nat) : s.reader c = .stopping → Step s (.readerStop c) { s with
      closed := true, cache := fun _ => none, reader := upd s.reader c .stopped,
      status := fun w => if s.status w = .pending ∧ s.cache (s.hbhOf w) = some w then .dropped else s.status w }

theorem step_some {s s' : St} {l : Label} (h : step s l = some s') : Step s l s' := by
  cases l <;> simp only [step] at h
  case connect =>
    split at h <;> cases h
    exact .connect (Decidable.of_not_not ‹_›)
  case sendBegin hb =>
    split at h
    · cases h
    · have hi : s.send = .idle := Decidable.of_not_not ‹_›
      split at h
      · cases h; exact .refuse hb hi (.inl ‹_›)
      · split at h
        · cases h; exact .refuse hb hi (.inr ‹_›)
        · cases h
          have := Step.register hb hi ‹_› (by simpa using ‹¬s.closed = true›)
          rwa [← status_register] at this
  case write => split at h <;> cases h <;> exact .write _ (by simp [*])
  case sendReturn => split at h <;> cases h; exact .sendReturn _ ‹_›
  case sendFail => split at h <;> cases h <;> exact .sendFail (by simp [*])
  case peerEmit c it => split at h <;> cases h; exact .emit c it (by omega)
  case readerDecode c =>
    split at h
    · cases h
    · split at h
      · cases h
      · have hr : s.reader c = .running := Decidable.of_not_not ‹_›
        split at h <;> cases h
        · exact .decode c _ _ (by omega) hr ‹_›
        · exact .undecodable c _ (by omega) hr ‹_›
  case readerRemove c =>
    split at h
    · split at h <;> cases h
      · exact .remove c _ _ ‹_› ‹_›
      · exact .unmatched c _ ‹_› ‹_›
    · cases h
  case readerDeliver c => split at h <;> cases h; exact .deliver c _ _ ‹_›
  case readerStop c => split at h <;> cases h; exact .stop c (Decidable.of_not_not ‹_›)

/-- ... and every one of them is a step -/
theorem Step.enabled {s s' : St} {l : Label} (h : Step s l s') : step s l = some s' := by
  cases h with
  | register hb hi hz hc =>
    simp only [step, hi, hz, hc, ne_eq, not_true, if_false, Bool.false_eq_true]
    congr
    exact status_register s hb
  | refuse hb hi hr => rcases hr with hr | hr <;> simp [step, hi, hr]
  | write w hw => rcases hw with hw | hw <;> simp [step, hw]
  | sendFail hw =>
    simp only [step]
    split <;> simp_all
  | emit c it hc => simp only [step, Nat.not_le.mpr hc]; rfl
  | decode c m rest hc hr hw | undecodable c rest hc hr hw => simp [step, Nat.not_le.mpr hc, hr, hw]
  | _ => simp [step, *]

/-- when a reader that is not handing over an answer changes state, whoever waits on a hand-over still does -/
theorem Inv₀.pending_upd {s : St} (hi : Inv₀ s) {c : Nat} (v : Reader) (hc : ∀ m w, s.reader c ≠ .removed m w) (w : Nat)
    (hw : w < s.nW) (hp : s.status w = .pending) :
    s.cache (s.hbhOf w) = some w ∨ ∃ c' m, upd s.reader c v c' = .removed m w :=
  (hi.pending_ok w hw hp).imp_right fun ⟨c', m, h⟩ => ⟨c', m, upd_of_old (hc m w) h⟩

/-- a reader that is not handing over an answer may take any state that is not a hand-over either -/
theorem Inv₀.reader_upd {s : St} (hi : Inv₀ s) (c : Nat) (v : Reader) (hc : ∀ m w, s.reader c ≠ .removed m w)
    (hv : ∀ m w, v ≠ .removed m w) (hd : ∀ m, v = .decoded m → m ∈ s.emitted) :
    Inv₀ { s with reader := upd s.reader c v } :=
  { hi with
    dec_ok := fun c' m h => by
      have := hi.dec_ok c' m; grind
    rem_ok := fun c' m w h => hi.rem_ok c' m w (old_of_upd h (hv m w))
    rem_uniq := fun c₁ c₂ m₁ m₂ w h₁ h₂ => hi.rem_uniq c₁ c₂ m₁ m₂ w (old_of_upd h₁ (hv m₁ w)) (old_of_upd h₂ (hv m₂ w))
    pending_ok := hi.pending_upd _ hc }

theorem inv₀_step {s s' : St} (l : Label) (hi : Inv₀ s) (h : step s l = some s') : Inv₀ s' := by
  cases step_some h with
  | connect | write | sendReturn | sendFail =>
    -- these change `nC`, `send`, `started` only, which `Inv₀` does not read
    exact { hi with }
  | refuse => exact hi
  | register hb =>
    exact { hi with
      cache_ok := fun h w hc => by
        have := hi.cache_ok h w; have := hi.cache_ok hb w; grind
      got_ok := fun w m hw hg => by
        have := hi.got_ok w m; grind
      rem_ok := fun c m w hr => by
        have := hi.rem_ok c m w hr; have := hi.cache_ok hb w; grind
      pending_ok := fun w hw hp => by
        have := hi.pending_ok w; grind }
  | emit c it =>
    exact { hi with
      got_ok := fun w m hw hg => ⟨(hi.got_ok w m hw hg).1, mem_emit (hi.got_ok w m hw hg).2⟩
      dec_ok := fun c m h => mem_emit (hi.dec_ok c m h)
      rem_ok := fun c m w h => ⟨mem_emit (hi.rem_ok c m w h).1, (hi.rem_ok c m w h).2⟩
      wire_ok := fun c' m h => (mem_upd_append.mp h).elim (fun h => mem_emit (hi.wire_ok c' m h)) fun ⟨_, e⟩ => by
        subst e; exact List.mem_cons_self }
  | decode c m rest _ hr hw =>
    have hm : m ∈ s.emitted := hi.wire_ok c m (hw ▸ List.mem_cons_self)
    exact { hi.reader_upd c (.decoded m) (by simp [hr]) nofun fun m' e => Reader.decoded.inj e ▸ hm with
      wire_ok := fun c' m' h => hi.wire_ok c' m' (mem_of_mem_upd_tail hw h) }
  | undecodable c rest _ hr hw =>
    exact { hi.reader_upd c .stopping (by simp [hr]) nofun nofun with
      wire_ok := fun c' m' h => hi.wire_ok c' m' (mem_of_mem_upd_tail hw h) }
  | remove c m w hr hw =>
    obtain ⟨hlt, hbh, hp⟩ := hi.cache_ok _ w hw
    exact { hi with
      cache_ok := fun h w' hc => by
        have := hi.cache_ok h w'; grind
      dec_ok := fun c' m' h => hi.dec_ok c' m' (old_of_upd h nofun)
      rem_ok := fun c' m' w' h => by
        have := hi.rem_ok c' m' w'; have := hi.dec_ok c m hr; grind
      rem_uniq := fun c₁ c₂ m₁ m₂ w' h₁ h₂ => by
        have := hi.rem_uniq c₁ c₂ m₁ m₂ w'; have := hi.rem_ok c₁ m₁ w'; have := hi.rem_ok c₂ m₂ w'
        grind
      pending_ok := fun w' hw' hp' => by
        by_cases e : w' = w
        · exact .inr ⟨c, m, e ▸ upd_same⟩
        · have := hi.pending_ok w' hw' hp'; simp only [upd]; grind }
  | unmatched c m hr => exact hi.reader_upd c .stopping (by simp [hr]) nofun nofun
  | deliver c m w hr =>
    obtain ⟨hm, -, hbh, -, hnc⟩ := hi.rem_ok c m w hr
    exact { hi with
      cache_ok := fun h w' hc => by
        have := hi.cache_ok h w' hc; grind
      got_ok := fun w' m' hw' hg => by
        have := hi.got_ok w' m' hw'; grind
      dec_ok := fun c' m' h => hi.dec_ok c' m' (old_of_upd h nofun)
      rem_ok := fun c' m' w' h => by
        have := hi.rem_ok c' m' w' (old_of_upd h nofun); have := hi.rem_uniq c c' m m' w hr
        grind
      rem_uniq := fun c₁ c₂ m₁ m₂ w h₁ h₂ => hi.rem_uniq c₁ c₂ m₁ m₂ w (old_of_upd h₁ nofun) (old_of_upd h₂ nofun)
      pending_ok := fun w' hw' hp' => by
        have := hi.pending_ok w' hw'; simp only [upd] at hp' ⊢; grind }
  | stop c hr =>
    have hr : ∀ m w, s.reader c ≠ .removed m w := by simp [hr]
    exact { hi.reader_upd c .stopped hr nofun nofun with
      cache_ok := nofun
      got_ok := fun w m hw hg => by
        have := hi.got_ok w m hw; grind
      rem_ok := fun c' m' w h => by
        have := hi.rem_ok c' m' w (old_of_upd h nofun); grind
      pending_ok := fun w hw hp => by
        -- a waiter still pending was not in the table, so a reader is about to deliver to it
        have : s.status w = .pending ∧ s.cache (s.hbhOf w) ≠ some w := by
          grind
        exact .inr ((hi.pending_upd .stopped hr w hw this.1).resolve_left this.2) }

/-- the two clauses of `Inv` about `closed` are an invariant by themselves: the table gets entries only while not closed, a
reader stops only with `closed` set, and `closed` is never reset -/
theorem closed_clauses_step {s s' : St} (l : Label) (hc : s.closed = true → ∀ h, s.cache h = none)
    (hs : ∀ c, s.reader c = .stopped → s.closed = true) (h : step s l = some s') :
    (s'.closed = true → ∀ h, s'.cache h = none) ∧ ∀ c, s'.reader c = .stopped → s'.closed = true := by
  cases step_some h with
  | connect | refuse | write | sendReturn | sendFail | emit => exact ⟨hc, hs⟩
  | register hb _ _ hcl => exact ⟨fun h => absurd (hcl.symm.trans h) nofun, hs⟩
  | decode | undecodable | remove | unmatched | deliver =>
    -- the table does not grow, `closed` stays, reader `c` does not stop
    exact ⟨by grind, fun c' h => hs c' (old_of_upd h nofun)⟩
  | stop => exact ⟨fun _ _ => rfl, fun _ _ => rfl⟩

theorem inv_step {s s' : St} (l : Label) (hi : Inv s) (h : step s l = some s') : Inv s' :=
  { inv₀_step l { hi with } h with
    closed_ok := (closed_clauses_step l hi.closed_ok hi.stopped_ok h).1
    stopped_ok := (closed_clauses_step l hi.closed_ok hi.stopped_ok h).2 }

theorem run_induct {P : St → Prop} (hstep : ∀ s s' l, P s → step s l = some s' → P s') {s s' : St} (ls : List Label)
    (hp : P s) (h : run s ls = some s') : P s' := by
  induction ls generalizing s with
  | nil => cases h; exact hp
  | cons l ls ih =>
    simp only [run] at h
    split at h
    · exact ih (hstep _ _ l hp ‹_›) h
    · cases h

theorem inv_run {s s' : St} (ls : List Label) (hi : Inv s) (h : run s ls = some s') : Inv s' :=
  run_induct (fun _ _ l hi h => inv_step l hi h) ls hi h

/-- `closed` is never reset: not by a later `connect()`, not by anything else -/
theorem closed_step {s s' : St} (l : Label) (h : step s l = some s') (hc : s.closed = true) : s'.closed = true := by
  cases step_some h with
  | stop => rfl
  | _ => exact hc

theorem closed_run {s s' : St} (ls : List Label) (h : run s ls = some s') (hc : s.closed = true) : s'.closed = true :=
  run_induct (fun _ _ l hc h => closed_step l h hc) ls hc h

end Dia.Cm
