import Dia.Leaf
/-! Round trip of the recursive decoder: a wire form of a typed tree (its encoding up to padding octets and reserved flag
bits, `Avp.Wire`) decodes to exactly that tree. -/
namespace Dia

theorem match_leaf {α : Type} (A B : α) (f : Ty → α) : ∀ ty : Ty, ty ≠ .grouped → ty ≠ .unknown →
    (match ty with | .grouped => A | .unknown => B | t => f t) = f ty := by
  intro ty h1 h2
  cases ty <;> first | rfl | exact absurd rfl h1 | exact absurd rfl h2

mutual
theorem decAvp_wire (cfg : Cfg) (dict : Lookup) : ∀ (fuel depth : Nat) (a : Avp) (x r : Bytes),
    a.Wire x → a.Typed dict → a.sz < fuel → depth + a.depth ≤ cfg.limit →
    decAvp cfg dict fuel depth (.inRange (x ++ r)) = .ok (a, .inRange r)
  | 0, _, _, _, _, _, _, hf, _ => by omega
  | fuel+1, depth, .mk code vendor m p len padding v, x, r, hw, hty, hf, hd => by
    -- the octets are a header, a wire form of the value, and padding
    obtain ⟨hlen24, rfl, rfl, hb, vb, pb, rfl, hl1, hm1, hv, hl4⟩ := Avp.wire_iff.mp hw
    obtain ⟨hdict, hvty⟩ := hty
    simp only [decAvp, List.append_assoc]
    rw [decHdr_rt hl1 hm1 hlen24]
    simp only [Out.bind_ok]
    rw [if_neg (by omega), checkedSub_of_le (by omega)]
    simp only [Out.bind_ok, Nat.add_sub_cancel_left, hdict]
    by_cases hg : tyOf v = .grouped
    · cases v with
      | grouped ms =>
        simp only [Avp.depth, Value.depth] at hd
        simp only [Avp.sz, Value.sz] at hf
        simp only [tyOf]
        rw [if_neg (by omega), decGroup_wire cfg dict fuel (depth+1) (Value.grouped ms).len 0 ms vb (pb ++ r) hv hvty
          (by omega) (by omega) (Nat.zero_add _) (by omega)]
        simp only [Out.bind_ok]
        rw [Cur.skip_append r hl4]
      | _ => cases hg
    · split
      · exact absurd ‹_› hg
      · exact absurd ‹_› (tyOf_ne_unknown v)
      · rw [decLeaf_rt hv.wf hg ((leaf_wire hg).mp hv).2]
        simp only [Out.bind_ok]
        rw [Cur.skip_append r hl4]
theorem decGroup_wire (cfg : Cfg) (dict : Lookup) : ∀ (fuel depth len off : Nat) (ms : List Avp) (x r : Bytes),
    WireList ms x → TypedList dict ms → szList ms < fuel → depth + depthList ms ≤ cfg.limit →
    off + lenList ms = len → len < 16777216 →
    decGroup cfg dict fuel depth len off (.inRange (x ++ r)) = .ok (ms, .inRange r)
  | 0, _, _, _, _, _, _, _, _, hf, _, _, _ => by omega
  | fuel+1, depth, len, off, [], x, r, hw, _, _, _, hoff, _ => by
    cases List.eq_nil_of_length_eq_zero hw.len
    simp only [lenList] at hoff
    simp only [decGroup, List.nil_append]
    rw [if_neg (by omega), if_pos (by omega)]
  | fuel+1, depth, len, off, a :: as, x, r, hw, hty, hf, hd, hoff, hlen => by
    obtain ⟨x1, x2, rfl, ha, has⟩ := wireList_cons.mp hw
    simp only [lenList, szList, depthList, Avp.padded] at hf hd hoff
    have hpos := Avp.sz_le a ha.cons
    simp only [Avp.padded] at hpos
    simp only [decGroup, List.append_assoc]
    rw [if_pos (by omega), decAvp_wire cfg dict fuel depth a x1 (x2 ++ r) ha hty.1 (by omega)
      (by have := Nat.le_max_left a.depth (depthList as); omega)]
    simp only [Out.bind_ok]
    rw [checkedAdd32_of_lt (by omega)]
    simp only [Out.bind_ok]
    rw [checkedAdd32_of_lt (by omega)]
    simp only [Out.bind_ok]
    rw [decGroup_wire cfg dict fuel depth len (off + a.len + a.padding) as x2 r has hty.2
      (by omega) (by have := Nat.le_max_right a.depth (depthList as); omega) (by omega) hlen]
    rfl
end

theorem decAvp_rt (cfg : Cfg) (dict : Lookup) : ∀ (fuel depth : Nat) (a : Avp) (noisy r : Bytes),
    a.Cons → a.WF → a.Typed dict → noisy.length = a.mask.length → a.enc = ⟨applyMask noisy a.mask, none⟩ →
    a.sz < fuel → depth + a.depth ≤ cfg.limit →
    decAvp cfg dict fuel depth (.inRange (noisy ++ r)) = .ok (a, .inRange r) :=
  fun fuel depth a noisy r hc hwf hty hnl henc => decAvp_wire cfg dict fuel depth a noisy r ⟨hc, hwf, hnl, henc⟩ hty

theorem decGroup_rt (cfg : Cfg) (dict : Lookup) : ∀ (fuel depth len off : Nat) (ms : List Avp) (noisy r : Bytes),
    ConsList ms → WFList ms → TypedList dict ms → noisy.length = (maskList ms).length →
    encList ms = ⟨applyMask noisy (maskList ms), none⟩ →
    szList ms < fuel → depth + depthList ms ≤ cfg.limit → off + lenList ms = len → len < 16777216 →
    decGroup cfg dict fuel depth len off (.inRange (noisy ++ r)) = .ok (ms, .inRange r) :=
  fun fuel depth len off ms noisy r hc hwf hty hnl henc =>
    decGroup_wire cfg dict fuel depth len off ms noisy r ⟨hc, hwf, hnl, henc⟩ hty

end Dia
