import Dia.SpecAbs
import Dia.Top
/-! The decoder of the model against the independent reading relation `Spec.Parses`: sound, complete, hence the reading is
unique and the strict decoder is a correct reader. Everything goes through `Msg.Good.parses_iff`, which says in the model's own
terms what it means for a frame to parse as the content of a good message. -/
namespace Dia
open Spec

/-- **what "the frame parses as the content of `m`" means for a good message `m`**, without mention of `Spec`: command and
application are known, the AVPs are typed, the length fits, and the frame is `m`'s header followed by a wire form of `m`'s
AVPs -/
theorem Msg.Good.parses_iff {m : Msg} (hg : m.Good) (T : Tables) (dict : Lookup) (bs : Bytes) :
    Parses T dict bs m.abs ↔ m.HeaderOk T ∧ TypedList dict m.avps ∧ m.length < 16777216 ∧
      ∃ body, bs = m.hdrBytes ++ body ∧ WireList m.avps body := by
  have hmask : m.abs.mask = List.replicate 20 .keep ++ maskList m.avps := by
    simp only [SMsg.mask, Msg.abs, absList_mask m.avps hg.wf hg.cons]
  have h20 := m.hdrBytes_length
  have hml := maskList_len _ hg.cons
  constructor
  · rintro ⟨hcmd, happ, _, hty, hsmall, hsize, hmasked⟩
    rw [hg.encode_length] at hsmall hsize
    rw [hmask, hg.encode_eq] at hmasked
    obtain ⟨x1, x2, rfl, hx1, hx2, hm1, hm2⟩ := applyMask_split
      (by rw [hsize, hg.len, List.length_append, List.length_replicate, hml]) hmasked (by simp [h20])
    rw [List.length_replicate] at hx1
    rw [applyMask_keep hx1] at hm1
    exact ⟨⟨hcmd, happ⟩, (absList_typed dict m.avps).mp hty, hsmall, x2, by rw [hm1],
      hg.cons, hg.wf, hx2, Enc.eq_mk (encList_ok _ hg.wf hg.cons).1 hm2.symm⟩
  · rintro ⟨hh, hty, h24, body, rfl, hw⟩
    refine ⟨hh.cmd, hh.app, absList_valid m.avps hg.wf hg.cons, (absList_typed dict m.avps).mpr hty,
      by rw [hg.encode_length]; exact h24, by rw [hg.encode_length, List.length_append, h20, hw.len, hml, hg.len], ?_⟩
    rw [hmask, hg.encode_eq, applyMask_append (by simp [h20]), applyMask_keep h20, hw.enc]

/-- soundness (`C03_sound`) -/
theorem decMsg_parses (cfg : Cfg) (dict : Lookup) (bs : Bytes) (m : Msg)
    (h : decMsg cfg dict bs = .ok m) (hlen : bs.length = m.length) (hnl : NoLieList m.avps) :
    Parses cfg.tables dict bs m.abs := by
  obtain ⟨hg, body, hbs, hw⟩ := decMsg_sound h hlen hnl
  obtain ⟨hty, _, hh⟩ := decMsg_typed cfg dict bs m h
  exact (hg.parses_iff ..).mpr ⟨hh, hty, (decMsg_ok h).1, body, hbs, hw⟩

/-- what the encoder produces for a consistent, typed message is a frame that an independent reader reads back as
exactly that content -/
theorem enc_parses (T : Tables) (dict : Lookup) (m : Msg) (hg : m.Good) (hh : m.HeaderOk T)
    (hty : TypedList dict m.avps) (h24 : m.length < 16777216) : Parses T dict (Spec.encode m.abs) m.abs :=
  (hg.parses_iff ..).mpr ⟨hh, hty, h24, _, hg.encode_eq, encList_wire _ hg.wf hg.cons⟩

/-- completeness for a good message `m`: whatever parses as its content, nested no deeper than the decoder's limit, decodes to `m` -/
theorem decMsg_of_parses_abs {cfg : Cfg} {dict : Lookup} {bs : Bytes} {m : Msg} (hf : cfg.tables.Fit) (hg : m.Good)
    (hp : Parses cfg.tables dict bs m.abs) (hd : depthList m.avps ≤ cfg.limit) : decMsg cfg dict bs = .ok m := by
  obtain ⟨hh, hty, h24, body, rfl, hw⟩ := (hg.parses_iff ..).mp hp
  exact decMsg_wire hf hg hh hty h24 hd hw

/-- the model message of a spec message: stored lengths and paddings computed from the content -/
def Spec.SMsg.conc (s : SMsg) : Msg :=
  ⟨s.version, 20 + lenList (concAvps s.avps), s.flags, s.cmd, s.app, s.hbh, s.e2e, concAvps s.avps⟩

theorem SMsg.conc_good (s : SMsg) (hv : ValidAvps s.avps) : s.conc.Good ∧ s.conc.abs = s := by
  obtain ⟨h1, h2, h3⟩ := concAvps_good s.avps hv
  exact ⟨⟨h1, h2, rfl⟩, by simp only [SMsg.conc, Msg.abs, h3]⟩

/-- what a frame parses as is the content of a good message: statements about `Parses .. s` need only be proved for `s = m.abs` -/
theorem Spec.Parses.exists_good {T : Tables} {dict : Lookup} {bs : Bytes} {s : SMsg} (hp : Parses T dict bs s) :
    ∃ m : Msg, m.Good ∧ m.abs = s :=
  ⟨s.conc, SMsg.conc_good s hp.valid⟩

/-- completeness (`C03_complete`), with the message returned named: it is `s.conc` -/
theorem decMsg_of_parses (cfg : Cfg) (dict : Lookup) (bs : Bytes) (s : SMsg) (hf : cfg.tables.Fit)
    (hp : Parses cfg.tables dict bs s)
    (hd : depthAvps s.avps ≤ cfg.limit) : decMsg cfg dict bs = .ok s.conc ∧ s.conc.abs = s := by
  obtain ⟨hg, habs⟩ := SMsg.conc_good s hp.valid
  rw [← habs] at hp hd
  exact ⟨decMsg_of_parses_abs hf hg hp (absList_depth _ ▸ hd), habs⟩

/-- **uniqueness.** The octets determine the message: two readings of one frame are equal. -/
theorem parses_unique (T : Tables) (hf : T.Fit) (dict : Lookup) (bs : Bytes) (s s' : SMsg)
    (h : Parses T dict bs s) (h' : Parses T dict bs s') :
    s = s' := by
  obtain ⟨m, hg, rfl⟩ := h.exists_good
  obtain ⟨m', hg', rfl⟩ := h'.exists_good
  -- a decoder whose limit admits both decodes the frame to `m` and to `m'`
  let cfg : Cfg := ⟨fun _ _ => false, max (depthList m.avps) (depthList m'.avps), T⟩
  have d := decMsg_of_parses_abs (cfg := cfg) hf hg h (Nat.le_max_left _ _)
  rw [decMsg_of_parses_abs (cfg := cfg) hf hg' h' (Nat.le_max_right _ _)] at d
  rw [Out.ok.inj d]

/-- the executable reader used as run-time oracle: the model decoder with no leniency and a nesting budget as large as
the frame (i.e. none), accepting only frames of exactly their declared size -/
def Spec.read (T : Tables) (dict : Lookup) (bs : Bytes) : Option SMsg :=
  match decMsg ⟨fun _ _ => false, bs.length, T⟩ dict bs with
  | .ok m => if bs.length = m.length then some m.abs else none
  | _ => none

theorem Spec.read_eq_some {T : Tables} {dict : Lookup} {bs : Bytes} {s : SMsg} : Spec.read T dict bs = some s ↔
    ∃ m, decMsg ⟨fun _ _ => false, bs.length, T⟩ dict bs = .ok m ∧ bs.length = m.length ∧ m.abs = s := by
  unfold Spec.read
  cases decMsg ⟨fun _ _ => false, bs.length, T⟩ dict bs <;> simp

/-- **the reader is correct**: it returns `s` exactly when `bs` parses as `s` -/
theorem read_correct (T : Tables) (hf : T.Fit) (dict : Lookup) (bs : Bytes) (s : SMsg) :
    Spec.read T dict bs = some s ↔ Parses T dict bs s := by
  rw [Spec.read_eq_some]
  constructor
  · rintro ⟨m, hm, hl, rfl⟩
    exact decMsg_parses _ dict bs m hm hl (decMsg_strict _ dict (fun _ _ => rfl) bs m hm)
  · intro hp
    obtain ⟨m, hg, rfl⟩ := hp.exists_good
    -- every nesting level costs 8 octets, so a budget of the frame's size is no restriction
    have hdep : depthList m.avps ≤ bs.length := by
      have := depthAvps_le (absList m.avps)
      rw [absList_depth] at this
      rw [hp.size, Spec.encode_length, show m.abs.avps = absList m.avps from rfl]
      omega
    exact ⟨m, decMsg_of_parses_abs hf hg hp hdep, hp.size.trans hg.encode_length, rfl⟩

end Dia
