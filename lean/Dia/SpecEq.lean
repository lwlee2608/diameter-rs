import Dia.SpecParse
import Dia.Enc
/-! The abstraction `abs` from the trees of the model to those of the specification (which stores no lengths), and the core
of C01: the encoder produces, for a consistent, well-formed tree, the octets `Spec.encode` prescribes for its abstraction. -/
namespace Dia
open Spec

theorem epoch_agrees : (epochOffset : Int) = RFC868 := by decide

mutual
def Value.abs : Value → SData
  | .grouped ms => .grouped (absList ms)
  | .address a => .address a | .ipv4 b => .ipv4 b | .ipv6 b => .ipv6 b | .identity b => .identity b | .uri b => .uri b
  | .enumerated b => .enumerated b | .float32 b => .float32 b | .float64 b => .float64 b
  | .integer32 b => .integer32 b | .integer64 b => .integer64 b | .octets b => .octets b
  | .time secs _ => .time (secs + epochOffset).toNat
  | .unsigned32 b => .unsigned32 b | .unsigned64 b => .unsigned64 b | .utf8 b => .utf8 b
def Avp.abs : Avp → SAvp
  | .mk code vendor m p _ _ v => .mk code vendor m p v.abs
def absList : List Avp → List SAvp
  | [] => []
  | a :: as => a.abs :: absList as
end

theorem u32be_eq (n : Nat) : u32be n = be32 n := rfl
theorem u24be_eq (n : Nat) : u24be n = be24 n := rfl
theorem u64be_eq (n : Nat) : u64be n = be64 n := rfl
theorem padTo4_eq (n : Nat) : padTo4 n = pad n := rfl

theorem hdrSize_eq (v : Option UInt32) : hdrSize v = hdrLen v := by cases v <;> rfl

/-- the AVP layout of the specification is the one the encoder of the model writes: the same header octets, the data, the
padding -/
theorem Spec.SAvp.encode_eq (code : UInt32) (vendor : Option UInt32) (m p : Bool) (d : SData) :
    (SAvp.mk code vendor m p d).encode =
      hdrBytes code vendor m p (hdrLen vendor + d.bytes.length) ++ (d.bytes ++ List.replicate (pad d.bytes.length) 0) := by
  cases vendor <;> simp [SAvp.encode, hdrBytes, flagsByte, hdrLen, u32be_eq, u24be_eq, padTo4_eq]

theorem Spec.SAvp.encode_length (code : UInt32) (vendor : Option UInt32) (m p : Bool) (d : SData) :
    (SAvp.mk code vendor m p d).encode.length = hdrSize vendor + d.bytes.length + padTo4 d.bytes.length := by
  simp only [SAvp.encode_eq, List.length_append, hdrBytes_length, List.length_replicate, hdrSize_eq, padTo4_eq, Nat.add_assoc]

/-- C01 core: a consistent, well-formed tree is encoded by the code exactly as RFC 6733 prescribes -/
theorem tree_enc_spec : (∀ v : Value, v.WF → v.Cons → v.enc = ⟨v.abs.bytes, none⟩) ∧
    (∀ a : Avp, a.WF → a.Cons → a.enc = ⟨a.abs.encode, none⟩) ∧
    ∀ ms : List Avp, WFList ms → ConsList ms → encList ms = ⟨encodeAvps (absList ms), none⟩ := by
  refine Value.induct (fun v h hwf _ => ?_) (fun ms ih hwf hc => ih hwf hc)
    (fun code vendor m p len padding v ih hwf hc => ?_) (fun _ _ => rfl) (fun a as iha ihs hwf hc => ?_)
  · cases v with
    | grouped ms => exact absurd rfl h
    | time s n =>
      simp only [Value.WF, Value.leafWF] at hwf
      simp only [Value.enc, Value.abs, SData.bytes]
      rw [if_neg (by omega), if_neg (by omega), epoch_agrees]
      rfl
    | address a => cases a <;> rfl
    | _ => rfl
  · obtain ⟨rfl, rfl, hcv⟩ := hc
    have hv := ih hwf.2 hcv
    have hl : v.abs.bytes.length = v.len := by rw [← (Value.enc_ok v hwf.2 hcv).2, hv]
    rw [Avp.enc_eq hwf.1 (congrArg Enc.err hv), hv, Avp.abs, SAvp.encode_eq, hl]
  · simp only [encList, absList, encodeAvps]
    rw [iha hwf.1 hc.1, Enc.andThen_ok, ihs hwf.2 hc.2]

theorem Value.enc_spec : ∀ v : Value, v.WF → v.Cons → v.enc = ⟨v.abs.bytes, none⟩ := tree_enc_spec.1
theorem Avp.enc_spec : ∀ a : Avp, a.WF → a.Cons → a.enc = ⟨a.abs.encode, none⟩ := tree_enc_spec.2.1
theorem encList_spec : ∀ ms : List Avp, WFList ms → ConsList ms → encList ms = ⟨encodeAvps (absList ms), none⟩ :=
  tree_enc_spec.2.2

theorem encodeAvps_length (ms : List Avp) (hwf : WFList ms) (hc : ConsList ms) :
    (encodeAvps (absList ms)).length = lenList ms := by
  have := (encList_ok ms hwf hc).2
  rwa [encList_spec ms hwf hc] at this

theorem Spec.encode_length (s : SMsg) : (Spec.encode s).length = 20 + (encodeAvps s.avps).length := by
  simp [Spec.encode, u24be, u32be]; omega

def Msg.abs (m : Msg) : SMsg := ⟨m.version, m.flags, m.cmd, m.app, m.hbh, m.e2e, absList m.avps⟩

theorem Msg.Good.encode_eq {m : Msg} (hg : m.Good) : Spec.encode m.abs = m.hdrBytes ++ (encList m.avps).bytes := by
  rw [encList_spec m.avps hg.wf hg.cons]
  simp only [Spec.encode, Msg.hdrBytes, Msg.abs, encodeAvps_length m.avps hg.wf hg.cons, hg.len, u24be_eq, u32be_eq]
  simp

theorem Msg.Good.encode_length {m : Msg} (hg : m.Good) : (Spec.encode m.abs).length = m.length := by
  rw [hg.encode_eq, List.length_append, m.hdrBytes_length, (encList_ok _ hg.wf hg.cons).2, hg.len]

/-- C01 for the model: a consistent message is encoded exactly as `Spec.encode` says, and its reported length is the
number of octets produced. -/
theorem Msg.enc_spec (m : Msg) (hwf : WFList m.avps) (hc : ConsList m.avps)
    (hlen : m.length = 20 + lenList m.avps) (h24 : m.length < 16777216) :
    m.enc = ⟨Spec.encode m.abs, none⟩ ∧ (Spec.encode m.abs).length = m.length := by
  have hg : m.Good := ⟨hwf, hc, hlen⟩
  refine ⟨?_, hg.encode_length⟩
  rw [Msg.enc_eq h24, Enc.ok, Enc.andThen_ok, hg.encode_eq, (encList_ok _ hwf hc).1]

theorem Msg.Good.enc_spec {m : Msg} (hg : m.Good) (h24 : m.length < 16777216) :
    m.enc = ⟨Spec.encode m.abs, none⟩ ∧ (Spec.encode m.abs).length = m.length :=
  Msg.enc_spec m hg.wf hg.cons hg.len h24

end Dia
