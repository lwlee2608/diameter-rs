import Dia.Model
/-! The UTF-8 predicate the model uses for `String::from_utf8` (`utf8Valid`: the byte-range table, Unicode Table 3-7) accepts an
octet string exactly when it is a concatenation of UTF-8 encodings of Unicode scalar values (RFC 3629 section 3; Unicode D92):
`scalars_of_utf8Valid` and `utf8Valid_of_scalars`, put together in `C03_utf8_is_rfc3629`. -/
namespace Dia

/-- Unicode scalar values: code points except the surrogates -/
def isScalar (c : Nat) : Prop := c < 0xD800 ∨ (0xE000 ≤ c ∧ c < 0x110000)

/-- RFC 3629 section 3: the UTF-8 encoding of a scalar value -/
def encScalar (c : Nat) : Bytes :=
  if c < 0x80 then [c.toUInt8]
  else if c < 0x800 then [(0xC0 + c / 64).toUInt8, (0x80 + c % 64).toUInt8]
  else if c < 0x10000 then [(0xE0 + c / 4096).toUInt8, (0x80 + c / 64 % 64).toUInt8, (0x80 + c % 64).toUInt8]
  else [(0xF0 + c / 262144).toUInt8, (0x80 + c / 4096 % 64).toUInt8, (0x80 + c / 64 % 64).toUInt8, (0x80 + c % 64).toUInt8]

theorem toUInt8_toNat (n : Nat) (h : n < 256) : n.toUInt8.toNat = n :=
  UInt8.toNat_ofNat_of_lt' h

theorem byte_eq (n : Nat) (b : UInt8) (h : n = b.toNat) : n.toUInt8 = b := by
  subst h; simp

/-! Every octet after the first carries six bits. So write a value as `((a * 64 + b) * 64 + d) * 64 + e` with
`b d e < 64`: the octets of its encoding are `a`, `b`, `d`, `e`, each on its marker (`encScalar_two` ..
`encScalar_four`), and the ranges of RFC 3629 turn into the bounds that the table puts on the first two octets
(`utf8_two_iff` .. `utf8_four_iff`). Both directions of the characterisation rest on these. -/

theorem digit64 (q d : Nat) (hd : d < 64) : (q * 64 + d) / 64 = q ∧ (q * 64 + d) % 64 = d := by
  rw [Nat.add_comm, Nat.add_mul_div_right _ _ (by decide), Nat.add_mul_mod_self_right, Nat.div_eq_of_lt hd,
    Nat.mod_eq_of_lt hd, Nat.zero_add]
  exact ⟨rfl, rfl⟩

theorem exists_digit64 (c : Nat) : ∃ q d, d < 64 ∧ c = q * 64 + d :=
  ⟨c / 64, c % 64, Nat.mod_lt _ (by decide), (Nat.div_add_mod' c 64).symm⟩

theorem exists_cont6 {y : Nat} (h1 : 0x80 ≤ y) (h2 : y ≤ 0xBF) : ∃ b, b < 64 ∧ y = 0x80 + b :=
  ⟨y - 0x80, by omega, by omega⟩

theorem encScalar_one {c : Nat} (h : c < 0x80) : encScalar c = [c.toUInt8] := by
  simp only [encScalar, if_pos h]

theorem encScalar_two {a b : Nat} (hb : b < 64) (h1 : ¬ a * 64 + b < 0x80) (h2 : a * 64 + b < 0x800) :
    encScalar (a * 64 + b) = [(0xC0 + a).toUInt8, (0x80 + b).toUInt8] := by
  simp only [encScalar, if_neg h1, if_pos h2, digit64 _ _ hb]

theorem encScalar_three {a b d : Nat} (hb : b < 64) (hd : d < 64) (h1 : ¬ (a * 64 + b) * 64 + d < 0x800)
    (h2 : (a * 64 + b) * 64 + d < 0x10000) :
    encScalar ((a * 64 + b) * 64 + d) = [(0xE0 + a).toUInt8, (0x80 + b).toUInt8, (0x80 + d).toUInt8] := by
  have h0 : ¬ (a * 64 + b) * 64 + d < 0x80 := by omega
  simp only [encScalar, if_neg h0, if_neg h1, if_pos h2, ← Nat.div_div_eq_div_mul _ 64 64, digit64 _ _ hb,
    digit64 _ _ hd]

theorem encScalar_four {a b d e : Nat} (hb : b < 64) (hd : d < 64) (he : e < 64)
    (h1 : ¬ ((a * 64 + b) * 64 + d) * 64 + e < 0x10000) :
    encScalar (((a * 64 + b) * 64 + d) * 64 + e) =
      [(0xF0 + a).toUInt8, (0x80 + b).toUInt8, (0x80 + d).toUInt8, (0x80 + e).toUInt8] := by
  have h0 : ¬ ((a * 64 + b) * 64 + d) * 64 + e < 0x80 := by omega
  have h0' : ¬ ((a * 64 + b) * 64 + d) * 64 + e < 0x800 := by omega
  simp only [encScalar, if_neg h0, if_neg h0', if_neg h1, ← Nat.div_div_eq_div_mul _ 64 64,
    ← Nat.div_div_eq_div_mul _ (64 * 64) 64, digit64 _ _ hb, digit64 _ _ hd, digit64 _ _ he]

theorem utf8_two_iff {a b : Nat} (hb : b < 64) :
    (¬ a * 64 + b < 0x80 ∧ a * 64 + b < 0x800) ↔ (2 ≤ a ∧ a < 32) := by
  omega

/-- not overlong: `E0` is followed by `A0..`; no surrogate: `ED` is followed by `..9F` -/
theorem utf8_three_iff {a b d : Nat} (hb : b < 64) (hd : d < 64) :
    (¬ (a * 64 + b) * 64 + d < 0x800 ∧ (a * 64 + b) * 64 + d < 0x10000 ∧ isScalar ((a * 64 + b) * 64 + d)) ↔
      (a < 16 ∧ (a = 0 → 32 ≤ b) ∧ (a = 13 → b < 32)) := by
  unfold isScalar; omega

/-- not overlong: `F0` is followed by `90..`; at most `0x10FFFF`: `F4` is followed by `..8F` -/
theorem utf8_four_iff {a b d e : Nat} (hb : b < 64) (hd : d < 64) (he : e < 64) :
    (¬ ((a * 64 + b) * 64 + d) * 64 + e < 0x10000 ∧ isScalar (((a * 64 + b) * 64 + d) * 64 + e)) ↔
      (a < 5 ∧ (a = 0 → 16 ≤ b) ∧ (a = 4 → b < 16)) := by
  unfold isScalar; omega

theorem ite_le_iff {p : Prop} [Decidable p] {u v y : Nat} :
    (if p then u else v) ≤ y ↔ (p → u ≤ y) ∧ (¬ p → v ≤ y) := by
  split <;> simp [*]

theorem le_ite_iff {p : Prop} [Decidable p] {u v y : Nat} :
    y ≤ (if p then u else v) ↔ (p → y ≤ u) ∧ (¬ p → y ≤ v) := by
  split <;> simp [*]

/-- a continuation octet: the marker and six bits -/
theorem cont6 {b : Nat} (hb : b < 64) : (0x80 + b).toUInt8.toNat = 0x80 + b ∧ 0x80 ≤ 0x80 + b ∧ 0x80 + b ≤ 0xBF :=
  ⟨toUInt8_toNat _ (by omega), by omega, by omega⟩

theorem utf8Valid_encScalar (c : Nat) (hc : isScalar c) (r : Bytes) : utf8Valid (encScalar c ++ r) = utf8Valid r := by
  by_cases h1 : c < 0x80
  · rw [encScalar_one h1, utf8Valid.eq_def]
    simp only [List.cons_append, List.nil_append, toUInt8_toNat c (by omega), if_pos h1]
  obtain ⟨q, e, he, rfl⟩ := exists_digit64 c
  by_cases h2 : q * 64 + e < 0x800
  · have ha := (utf8_two_iff he).mp ⟨h1, h2⟩
    rw [encScalar_two he h1 h2, utf8Valid.eq_def]
    clear h1 h2 hc   -- they only slow `omega` down from here on; likewise below
    simp only [List.cons_append, List.nil_append, toUInt8_toNat (0xC0 + q) (by omega), cont6 he]
    rw [if_neg (by omega), if_pos (by omega)]
    simp only [decide_true, Bool.true_and]
  obtain ⟨q, d, hd, rfl⟩ := exists_digit64 q
  by_cases h3 : (q * 64 + d) * 64 + e < 0x10000
  · have ha := (utf8_three_iff hd he).mp ⟨h2, h3, hc⟩
    rw [encScalar_three hd he h2 h3, utf8Valid.eq_def]
    clear h1 h2 h3 hc
    simp only [List.cons_append, List.nil_append, toUInt8_toNat (0xE0 + q) (by omega), cont6 hd, cont6 he]
    rw [if_neg (by omega), if_neg (by omega), if_pos (by omega), decide_eq_true, decide_eq_true]
    · simp only [decide_true, Bool.true_and]
    all_goals simp only [ite_le_iff, le_ite_iff]; omega
  obtain ⟨a, b, hb, rfl⟩ := exists_digit64 q
  have ha := (utf8_four_iff hb hd he).mp ⟨h3, hc⟩
  rw [encScalar_four hb hd he h3, utf8Valid.eq_def]
  clear h1 h2 h3 hc
  simp only [List.cons_append, List.nil_append, toUInt8_toNat (0xF0 + a) (by omega), cont6 hb, cont6 hd, cont6 he]
  rw [if_neg (by omega), if_neg (by omega), if_neg (by omega), if_pos (by omega), decide_eq_true, decide_eq_true]
  · simp only [decide_true, Bool.true_and]
  all_goals simp only [ite_le_iff, le_ite_iff]; omega

theorem utf8Valid_of_scalars : ∀ cs : List Nat, (∀ c ∈ cs, isScalar c) → utf8Valid (cs.flatMap encScalar) = true
  | [], _ => rfl
  | c :: cs, h => by
    rw [List.flatMap_cons, utf8Valid_encScalar c (h c List.mem_cons_self)]
    exact utf8Valid_of_scalars cs (fun x hx => h x (List.mem_cons_of_mem _ hx))

theorem scalars_cons {c : Nat} {pre r : Bytes} (hc : isScalar c) (he : encScalar c = pre) :
    (∃ cs : List Nat, (∀ c ∈ cs, isScalar c) ∧ r = cs.flatMap encScalar) →
    ∃ cs : List Nat, (∀ c ∈ cs, isScalar c) ∧ pre ++ r = cs.flatMap encScalar
  | ⟨cs, h, e⟩ => ⟨c :: cs, List.forall_mem_cons.mpr ⟨hc, h⟩, by rw [List.flatMap_cons, he, e]⟩

theorem scalars_of_utf8Valid (bs : Bytes) (h : utf8Valid bs = true) :
    ∃ cs : List Nat, (∀ c ∈ cs, isScalar c) ∧ bs = cs.flatMap encScalar := by
  -- one case for each branch of the table: in an accepting one the leading octets encode one scalar value
  fun_induction utf8Valid bs
  case case1 => exact ⟨[], by simp, rfl⟩
  case case2 b0 r x h1 ih =>
    refine scalars_cons (c := b0.toNat) (pre := [b0]) (.inl (by omega)) ?_ (ih h)
    rw [encScalar_one h1, byte_eq _ b0 rfl]
  case case3 b0 x h1 h2 b1 r ih =>
    simp only [Bool.and_eq_true, decide_eq_true_eq, and_assoc] at h
    obtain ⟨l1, u1, hv⟩ := h
    obtain ⟨a, ha⟩ := Nat.exists_eq_add_of_le (Nat.le_trans (by decide : 0xC0 ≤ 0xC2) h2.1)
    obtain ⟨b, hb, hb1⟩ := exists_cont6 l1 u1
    have hr := (utf8_two_iff (a := a) hb).mpr (by omega)
    refine scalars_cons (c := a * 64 + b) (pre := [b0, b1]) (.inl (by omega)) ?_ (ih hv)
    rw [encScalar_two hb hr.1 hr.2, byte_eq _ b0 ha.symm, byte_eq _ b1 hb1.symm]
  case case5 b0 x h1 h2 h3 b1 b2 r lo hi ih =>
    simp only [Bool.and_eq_true, decide_eq_true_eq, and_assoc, lo, hi, ite_le_iff, le_ite_iff] at h
    obtain ⟨l1, l1', u1, u1', l2, u2, hv⟩ := h
    obtain ⟨a, ha⟩ := Nat.exists_eq_add_of_le h3.1
    obtain ⟨b, hb, hb1⟩ := exists_cont6 (y := b1.toNat) (by omega) (by omega)
    obtain ⟨d, hd, hb2⟩ := exists_cont6 l2 u2
    have hr := (utf8_three_iff (a := a) hb hd).mpr (by omega)
    refine scalars_cons (pre := [b0, b1, b2]) hr.2.2 ?_ (ih hv)
    rw [encScalar_three hb hd hr.1 hr.2.1, byte_eq _ b0 ha.symm, byte_eq _ b1 hb1.symm, byte_eq _ b2 hb2.symm]
  case case7 b0 x h1 h2 h3 h4 b1 b2 b3 r lo hi ih =>
    simp only [Bool.and_eq_true, decide_eq_true_eq, and_assoc, lo, hi, ite_le_iff, le_ite_iff] at h
    obtain ⟨l1, l1', u1, u1', l2, u2, l3, u3, hv⟩ := h
    obtain ⟨a, ha⟩ := Nat.exists_eq_add_of_le h4.1
    obtain ⟨b, hb, hb1⟩ := exists_cont6 (y := b1.toNat) (by omega) (by omega)
    obtain ⟨d, hd, hb2⟩ := exists_cont6 l2 u2
    obtain ⟨e, he, hb3⟩ := exists_cont6 l3 u3
    have hr := (utf8_four_iff (a := a) hb hd he).mpr (by omega)
    refine scalars_cons (pre := [b0, b1, b2, b3]) hr.2 ?_ (ih hv)
    rw [encScalar_four hb hd he hr.1, byte_eq _ b0 ha.symm, byte_eq _ b1 hb1.symm, byte_eq _ b2 hb2.symm,
      byte_eq _ b3 hb3.symm]
  all_goals cases h

end Dia
