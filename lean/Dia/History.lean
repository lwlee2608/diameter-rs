import Dia.Dict
import Dia.Tree
/-! The public construction API as a small stack machine (`DiameterMessage::new/add/add_avp/add_avp_by_name/
decode_from`, `Avp::new/from_name`, `Grouped::new/add/add_avp`, `get_grouped().clone()`), plus the read-only
accessors (`get_avp`, `get_avps`, the 16 typed getters, `Grouped::avps`). One `Op` per line of the harness
protocol; `hx` interprets the same lines with the real API. -/
namespace Dia

def Msg.new (cmd app : Nat) (flags : UInt8) (hbh e2e : UInt32) : Msg := ⟨1, 20, flags, cmd, app, hbh, e2e, []⟩

/-- `DiameterMessage::add`: running length, push -/
def Msg.add (m : Msg) (a : Avp) : Msg := { m with length := m.length + a.len + a.padding, avps := m.avps ++ [a] }

def Msg.addAvp (m : Msg) (code : UInt32) (vendor : Option UInt32) (flags : UInt8) (v : Value) : Msg :=
  m.add (Avp.new code vendor flags v)

/-- `Avp::from_name` -/
def Avp.fromName (D : Dict) (n : String) (v : Value) : Option Avp :=
  (D.getByName n).map fun d => Avp.new d.code d.vendor (if d.m then 0x40 else 0) v

/-- `DiameterMessage::add_avp_by_name`: on an unknown name the message is untouched -/
def Msg.addByName (m : Msg) (D : Dict) (n : String) (v : Value) : Option Msg :=
  (Avp.fromName D n v).map m.add

/-- `get_avp(code)`: first AVP with that code -/
def Msg.getAvp (m : Msg) (code : UInt32) : Option Avp := m.avps.find? (fun a => a.code == code)

/-- index of the AVP `get_avp` returns (what the harness reports: position of the returned reference) -/
def Msg.getAvpIdx (m : Msg) (code : UInt32) : Option Nat := m.avps.findIdx? (fun a => a.code == code)

/-- the 16 typed getters: `Some` exactly on the matching variant -/
def Avp.getTyped (a : Avp) (acc : Ty) : Option Value := if tyOf a.value = acc then some a.value else none

def Avp.groupMembers (a : Avp) : Option (List Avp) :=
  match a.value with
  | .grouped ms => some ms
  | _ => none

inductive Item
  | val (v : Value)
  | avp (a : Avp)

structure MState where
  dict : Dict := {}
  msg : Msg := Msg.new 272 4 0 0 0
  stack : List Item := []

inductive Op
  | new (cmd app : Nat) (flags : UInt8) (hbh e2e : UInt32)
  | val (v : Value)
  | grpNew
  | grpAddAvp (code : UInt32) (vendor : Option UInt32) (flags : UInt8)
  | grpAdd
  | avpNew (code : UInt32) (vendor : Option UInt32) (flags : UInt8)
  | avpName (n : String)
  | add
  | addAvp (code : UInt32) (vendor : Option UInt32) (flags : UInt8)
  | addByName (n : String)
  | decode (bs : Bytes)
  | grpFromAvp (i : Nat)
  | avpFromMsg (i : Nat)
  | reencode

inductive Status | ok | err | bad
deriving DecidableEq, Repr

/-- one API call. `bad`: the operation does not apply to the stack (never generated); `err`: the API returned `Err`
(or `None`), in which case only the consumed argument is gone -/
def MState.step (cfg : Cfg) (s : MState) : Op → MState × Status
  | .new cmd app flags hbh e2e =>
    if cfg.tables.cmdKnown cmd && cfg.tables.appKnown app then ({ s with msg := Msg.new cmd app flags hbh e2e }, .ok) else (s, .bad)
  | .val v => ({ s with stack := .val v :: s.stack }, .ok)
  | .grpNew => ({ s with stack := .val (.grouped []) :: s.stack }, .ok)
  | .grpAddAvp code vendor flags =>
    match s.stack with
    | .val v :: .val (.grouped ms) :: rest =>
      ({ s with stack := .val (.grouped (ms ++ [Avp.new code vendor flags v])) :: rest }, .ok)
    | _ => (s, .bad)
  | .grpAdd =>
    match s.stack with
    | .avp a :: .val (.grouped ms) :: rest => ({ s with stack := .val (.grouped (ms ++ [a])) :: rest }, .ok)
    | _ => (s, .bad)
  | .avpNew code vendor flags =>
    match s.stack with
    | .val v :: rest => ({ s with stack := .avp (Avp.new code vendor flags v) :: rest }, .ok)
    | _ => (s, .bad)
  | .avpName n =>
    match s.stack with
    | .val v :: rest =>
      match Avp.fromName s.dict n v with
      | some a => ({ s with stack := .avp a :: rest }, .ok)
      | none => ({ s with stack := rest }, .err)
    | _ => (s, .bad)
  | .add =>
    match s.stack with
    | .avp a :: rest => ({ s with msg := s.msg.add a, stack := rest }, .ok)
    | _ => (s, .bad)
  | .addAvp code vendor flags =>
    match s.stack with
    | .val v :: rest => ({ s with msg := s.msg.addAvp code vendor flags v, stack := rest }, .ok)
    | _ => (s, .bad)
  | .addByName n =>
    match s.stack with
    | .val v :: rest =>
      match s.msg.addByName s.dict n v with
      | some m => ({ s with msg := m, stack := rest }, .ok)
      | none => ({ s with stack := rest }, .err)
    | _ => (s, .bad)
  | .decode bs =>
    match decMsg cfg s.dict.lookup bs with
    | .ok m => ({ s with msg := m }, .ok)
    | _ => (s, .err)
  | .grpFromAvp i =>
    match s.msg.avps[i]? with
    | some a =>
      match a.value with
      | .grouped ms => ({ s with stack := .val (.grouped ms) :: s.stack }, .ok)
      | _ => (s, .err)
    | none => (s, .err)
  | .avpFromMsg i =>
    match s.msg.avps[i]? with
    | some a => ({ s with stack := .avp a :: s.stack }, .ok)
    | none => (s, .err)
  | .reencode =>
    match s.msg.enc.err with
    | some _ => (s, .err)
    | none =>
      match decMsg cfg s.dict.lookup s.msg.enc.bytes with
      | .ok m => ({ s with msg := m }, .ok)
      | _ => (s, .err)

def MState.run (cfg : Cfg) (s : MState) (ops : List Op) : MState := ops.foldl (fun s op => (s.step cfg op).1) s

end Dia
