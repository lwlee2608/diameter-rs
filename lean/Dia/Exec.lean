import Dia.History
/-! Executable (Bool-valued) versions of the predicates the theorems use, for the driver's reason codes and
oracle columns. `Dia/Props` relates them to the `Prop` versions where a check relies on them. -/
namespace Dia

mutual
def Value.noLieB : Value → Bool
  | .grouped ms => noLieListB ms
  | _ => true
def Avp.noLieB : Avp → Bool
  | .mk _ vendor _ _ len _ v =>
    (match fixedSize (tyOf v) with
     | some n => len == hdrLen vendor + n
     | none => true) && v.noLieB
def noLieListB : List Avp → Bool
  | [] => true
  | a :: as => a.noLieB && noLieListB as
end

mutual
def Value.consB : Value → Bool
  | .grouped ms => consListB ms
  | _ => true
def Avp.consB : Avp → Bool
  | .mk _ vendor _ _ len padding v => len == hdrLen vendor + v.len && padding == pad v.len && v.consB
def consListB : List Avp → Bool
  | [] => true
  | a :: as => a.consB && consListB as
end

def Value.leafWFB : Value → Bool
  | .address (.v4 b) => b.length == 4
  | .address (.v6 b) => b.length == 16
  | .address (.e164 s) => 1 ≤ s.length && s.length ≤ 15 && utf8Valid s
  | .ipv4 b => b.length == 4
  | .ipv6 b => b.length == 16
  | .identity s => utf8Valid s
  | .utf8 s => utf8Valid s
  | .time secs nanos => nanos == 0 && decide (0 ≤ secs + RFC868) && decide (secs + RFC868 ≤ 4294967295)
  | _ => true

mutual
def Value.wfB : Value → Bool
  | .grouped ms => wfListB ms
  | .address a => (Value.address a).leafWFB
  | .ipv4 b => (Value.ipv4 b).leafWFB
  | .ipv6 b => (Value.ipv6 b).leafWFB
  | .identity b => (Value.identity b).leafWFB
  | .utf8 b => (Value.utf8 b).leafWFB
  | .time s n => (Value.time s n).leafWFB
  | _ => true
def Avp.wfB : Avp → Bool
  | .mk _ _ _ _ len _ v => decide (len < 16777216) && v.wfB
def wfListB : List Avp → Bool
  | [] => true
  | a :: as => a.wfB && wfListB as
end

mutual
def Value.typedB (dict : Lookup) : Value → Bool
  | .grouped ms => typedListB dict ms
  | _ => true
def Avp.typedB (dict : Lookup) : Avp → Bool
  | .mk code vendor _ _ _ _ v => decide (dict code vendor = tyOf v) && v.typedB dict
def typedListB (dict : Lookup) : List Avp → Bool
  | [] => true
  | a :: as => a.typedB dict && typedListB dict as
end

/- type names of the AVPs whose declared length lies about a fixed-size value (finding F1), outermost first -/
mutual
def Value.lieTys : Value → List Ty
  | .grouped ms => lieTysList ms
  | _ => []
def Avp.lieTys : Avp → List Ty
  | .mk _ vendor _ _ len _ v =>
    (match fixedSize (tyOf v) with
     | some n => if len == hdrLen vendor + n then [] else [tyOf v]
     | none => []) ++ v.lieTys
def lieTysList : List Avp → List Ty
  | [] => []
  | a :: as => a.lieTys ++ lieTysList as
end

/- representable on the wire: every Time within the 32-bit 1900-based range, every AVP length within 24 bits
(C05: anything else must make the encoder fail) -/
mutual
def Value.repB : Value → Bool
  | .grouped ms => repListB ms
  | .time secs _ => decide (0 ≤ secs + RFC868) && decide (secs + RFC868 ≤ 4294967295)
  | _ => true
def Avp.repB : Avp → Bool
  | .mk _ _ _ _ len _ v => decide (len ≤ 16777215) && v.repB
def repListB : List Avp → Bool
  | [] => true
  | a :: as => a.repB && repListB as
end

def Msg.repB (m : Msg) : Bool := decide (m.length ≤ 16777215) && repListB m.avps

/-- FNV-1a over the octets (large frames are compared by length and hash instead of hex) -/
def fnv (bs : Bytes) : UInt64 := bs.foldl (fun h b => (h ^^^ b.toUInt64) * 1099511628211) 14695981039346656037

/-- C05: the encoder run against a writer that accepts exactly `k` octets in total and then fails -/
def encTo (m : Msg) (k : Nat) : Bool × Bytes :=
  let e := m.enc
  if e.bytes.length ≤ k then (e.err.isNone, e.bytes) else (false, e.bytes.take k)

def strictCfg (limit : Nat) (T : Tables := {}) : Cfg := ⟨fun _ _ => false, limit, T⟩

end Dia
