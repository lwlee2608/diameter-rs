import Dia.Wire
/-! Trees of AVPs: the mask that says which octets of an encoding are significant, the predicates the theorems use
(well formed, consistent, no length lie, typed, size and depth), and induction over a tree with a single case for all
values that are not groups. -/
namespace Dia

inductive MK | keep | flags | zero
deriving DecidableEq, Repr

def applyMK : UInt8 → MK → UInt8
  | b, .keep => b
  | b, .flags => b &&& 0xE0
  | _, .zero => 0

def applyMask (bs : Bytes) (ms : List MK) : Bytes := List.zipWith applyMK bs ms

def maskHdr (vendor : Option UInt32) : List MK :=
  [.keep, .keep, .keep, .keep, .flags, .keep, .keep, .keep] ++
    (if vendor.isSome then [.keep, .keep, .keep, .keep] else [])

def tyOf : Value → Ty
  | .address _ => .address | .ipv4 _ => .ipv4 | .ipv6 _ => .ipv6 | .identity _ => .identity | .uri _ => .uri
  | .enumerated _ => .enumerated | .float32 _ => .float32 | .float64 _ => .float64 | .grouped _ => .grouped
  | .integer32 _ => .integer32 | .integer64 _ => .integer64 | .octets _ => .octets | .time _ _ => .time
  | .unsigned32 _ => .unsigned32 | .unsigned64 _ => .unsigned64 | .utf8 _ => .utf8

mutual
def Value.mask : Value → List MK
  | .grouped ms => maskList ms
  | .address a => List.replicate (Value.address a).len .keep
  | .ipv4 b => List.replicate (Value.ipv4 b).len .keep
  | .ipv6 b => List.replicate (Value.ipv6 b).len .keep
  | .identity b => List.replicate (Value.identity b).len .keep
  | .uri b => List.replicate (Value.uri b).len .keep
  | .enumerated b => List.replicate (Value.enumerated b).len .keep
  | .float32 b => List.replicate (Value.float32 b).len .keep
  | .float64 b => List.replicate (Value.float64 b).len .keep
  | .integer32 b => List.replicate (Value.integer32 b).len .keep
  | .integer64 b => List.replicate (Value.integer64 b).len .keep
  | .octets b => List.replicate (Value.octets b).len .keep
  | .time s n => List.replicate (Value.time s n).len .keep
  | .unsigned32 b => List.replicate (Value.unsigned32 b).len .keep
  | .unsigned64 b => List.replicate (Value.unsigned64 b).len .keep
  | .utf8 b => List.replicate (Value.utf8 b).len .keep
def Avp.mask : Avp → List MK
  | .mk _ vendor _ _ _ padding v => maskHdr vendor ++ (v.mask ++ List.replicate padding .zero)
def maskList : List Avp → List MK
  | [] => []
  | a :: as => a.mask ++ maskList as
end

/-- what a value must satisfy to be a value the decoder can return / the wire can carry -/
def Value.leafWF : Value → Prop
  | .address (.v4 b) => b.length = 4
  | .address (.v6 b) => b.length = 16
  | .address (.e164 s) => 1 ≤ s.length ∧ s.length ≤ 15 ∧ utf8Valid s = true
  | .ipv4 b => b.length = 4
  | .ipv6 b => b.length = 16
  | .identity s => utf8Valid s = true
  | .utf8 s => utf8Valid s = true
  | .time secs nanos => nanos = 0 ∧ 0 ≤ secs + RFC868 ∧ secs + RFC868 ≤ 4294967295
  | _ => True

mutual
def Value.WF : Value → Prop
  | .grouped ms => WFList ms
  | .address a => (Value.address a).leafWF
  | .ipv4 b => (Value.ipv4 b).leafWF
  | .ipv6 b => (Value.ipv6 b).leafWF
  | .identity b => (Value.identity b).leafWF
  | .utf8 b => (Value.utf8 b).leafWF
  | .time s n => (Value.time s n).leafWF
  | .uri _ => True | .enumerated _ => True | .float32 _ => True | .float64 _ => True
  | .integer32 _ => True | .integer64 _ => True | .octets _ => True | .unsigned32 _ => True | .unsigned64 _ => True
def Avp.WF : Avp → Prop
  | .mk _ _ _ _ len _ v => len < 16777216 ∧ v.WF
def WFList : List Avp → Prop
  | [] => True
  | a :: as => a.WF ∧ WFList as
end

mutual
def Value.Cons : Value → Prop
  | .grouped ms => ConsList ms
  | .address _ => True | .ipv4 _ => True | .ipv6 _ => True | .identity _ => True | .uri _ => True
  | .enumerated _ => True | .float32 _ => True | .float64 _ => True | .integer32 _ => True | .integer64 _ => True
  | .octets _ => True | .time _ _ => True | .unsigned32 _ => True | .unsigned64 _ => True | .utf8 _ => True
def Avp.Cons : Avp → Prop
  | .mk _ vendor _ _ len padding v => len = hdrLen vendor + v.len ∧ padding = pad v.len ∧ v.Cons
def ConsList : List Avp → Prop
  | [] => True
  | a :: as => a.Cons ∧ ConsList as
end

/- no fixed-size value sits in an AVP whose declared length disagrees with its natural size -/
mutual
def Value.NoLie : Value → Prop
  | .grouped ms => NoLieList ms
  | .address _ => True | .ipv4 _ => True | .ipv6 _ => True | .identity _ => True | .uri _ => True
  | .enumerated _ => True | .float32 _ => True | .float64 _ => True | .integer32 _ => True | .integer64 _ => True
  | .octets _ => True | .time _ _ => True | .unsigned32 _ => True | .unsigned64 _ => True | .utf8 _ => True
def Avp.NoLie : Avp → Prop
  | .mk _ vendor _ _ len _ v => (∀ n, fixedSize (tyOf v) = some n → len = hdrLen vendor + n) ∧ v.NoLie
def NoLieList : List Avp → Prop
  | [] => True
  | a :: as => a.NoLie ∧ NoLieList as
end

/- fuel that suffices to decode a tree (`decAvp_wire`): one unit for each call of `decAvp` and of `decGroup`, a call handing
one unit less to those it makes (the leaf decoders take none, so less would do for a leaf) -/
mutual
def Value.sz : Value → Nat
  | .grouped ms => 1 + szList ms
  | .address _ => 0 | .ipv4 _ => 0 | .ipv6 _ => 0 | .identity _ => 0 | .uri _ => 0
  | .enumerated _ => 0 | .float32 _ => 0 | .float64 _ => 0 | .integer32 _ => 0 | .integer64 _ => 0
  | .octets _ => 0 | .time _ _ => 0 | .unsigned32 _ => 0 | .unsigned64 _ => 0 | .utf8 _ => 0
def Avp.sz : Avp → Nat
  | .mk _ _ _ _ _ _ v => 1 + v.sz
def szList : List Avp → Nat
  | [] => 0
  | a :: as => a.sz + 1 + szList as
end

/- nesting depth: number of grouped AVPs inside each other -/
mutual
def Value.depth : Value → Nat
  | .grouped ms => 1 + depthList ms
  | .address _ => 0 | .ipv4 _ => 0 | .ipv6 _ => 0 | .identity _ => 0 | .uri _ => 0
  | .enumerated _ => 0 | .float32 _ => 0 | .float64 _ => 0 | .integer32 _ => 0 | .integer64 _ => 0
  | .octets _ => 0 | .time _ _ => 0 | .unsigned32 _ => 0 | .unsigned64 _ => 0 | .utf8 _ => 0
def Avp.depth : Avp → Nat
  | .mk _ _ _ _ _ _ v => v.depth
def depthList : List Avp → Nat
  | [] => 0
  | a :: as => max a.depth (depthList as)
end

/- the dictionary declares, for every AVP of the tree, the type of the value it carries -/
mutual
def Value.Typed (dict : Lookup) : Value → Prop
  | .grouped ms => TypedList dict ms
  | .address _ => True | .ipv4 _ => True | .ipv6 _ => True | .identity _ => True | .uri _ => True
  | .enumerated _ => True | .float32 _ => True | .float64 _ => True | .integer32 _ => True | .integer64 _ => True
  | .octets _ => True | .time _ _ => True | .unsigned32 _ => True | .unsigned64 _ => True | .utf8 _ => True
def Avp.Typed (dict : Lookup) : Avp → Prop
  | .mk code vendor _ _ _ _ v => dict code vendor = tyOf v ∧ v.Typed dict
def TypedList (dict : Lookup) : List Avp → Prop
  | [] => True
  | a :: as => a.Typed dict ∧ TypedList dict as
end

/-- a value the wire can carry: well formed (for a group: at every level) and its stored lengths the ones the data imply -/
def Value.Good (v : Value) : Prop := v.WF ∧ v.Cons
def Avp.Good (a : Avp) : Prop := a.WF ∧ a.Cons

/-- a message of such AVPs whose running length is right -/
structure Msg.Good (m : Msg) : Prop where
  wf : WFList m.avps
  cons : ConsList m.avps
  len : m.length = 20 + lenList m.avps

/-- a message the header can carry: command code and application id are ones the library knows (they are Rust enums;
the tables `T` are read off the code on every run, `T.Fit`: every command code fits 24 bits) -/
structure Msg.HeaderOk (T : Tables) (m : Msg) : Prop where
  cmd : T.cmdKnown m.cmd = true
  app : T.appKnown m.app = true

mutual
private theorem ind_value {V : Value → Prop} {A : Avp → Prop} {L : List Avp → Prop}
    (leaf : ∀ v, tyOf v ≠ .grouped → V v) (grouped : ∀ ms, L ms → V (.grouped ms))
    (avp : ∀ code vendor m p len padding v, V v → A (.mk code vendor m p len padding v))
    (nil : L []) (cons : ∀ a as, A a → L as → L (a :: as)) : ∀ v, V v
  | .grouped ms => grouped ms (ind_list leaf grouped avp nil cons ms)
  | .address _ => leaf _ nofun | .ipv4 _ => leaf _ nofun | .ipv6 _ => leaf _ nofun | .identity _ => leaf _ nofun
  | .uri _ => leaf _ nofun | .enumerated _ => leaf _ nofun | .float32 _ => leaf _ nofun | .float64 _ => leaf _ nofun
  | .integer32 _ => leaf _ nofun | .integer64 _ => leaf _ nofun | .octets _ => leaf _ nofun | .time _ _ => leaf _ nofun
  | .unsigned32 _ => leaf _ nofun | .unsigned64 _ => leaf _ nofun | .utf8 _ => leaf _ nofun
private theorem ind_avp {V : Value → Prop} {A : Avp → Prop} {L : List Avp → Prop}
    (leaf : ∀ v, tyOf v ≠ .grouped → V v) (grouped : ∀ ms, L ms → V (.grouped ms))
    (avp : ∀ code vendor m p len padding v, V v → A (.mk code vendor m p len padding v))
    (nil : L []) (cons : ∀ a as, A a → L as → L (a :: as)) : ∀ a, A a
  | .mk code vendor m p len padding v => avp code vendor m p len padding v (ind_value leaf grouped avp nil cons v)
private theorem ind_list {V : Value → Prop} {A : Avp → Prop} {L : List Avp → Prop}
    (leaf : ∀ v, tyOf v ≠ .grouped → V v) (grouped : ∀ ms, L ms → V (.grouped ms))
    (avp : ∀ code vendor m p len padding v, V v → A (.mk code vendor m p len padding v))
    (nil : L []) (cons : ∀ a as, A a → L as → L (a :: as)) : ∀ ms, L ms
  | [] => nil
  | a :: as => cons a as (ind_avp leaf grouped avp nil cons a) (ind_list leaf grouped avp nil cons as)
end

/-- Induction over a tree of AVPs. The fifteen kinds of value that are not groups are one case (`leaf`): every predicate
below is trivial on them (`leaf_cons` ... `leaf_mask`). -/
theorem Value.induct {V : Value → Prop} {A : Avp → Prop} {L : List Avp → Prop}
    (leaf : ∀ v, tyOf v ≠ .grouped → V v) (grouped : ∀ ms, L ms → V (.grouped ms))
    (avp : ∀ code vendor m p len padding v, V v → A (.mk code vendor m p len padding v))
    (nil : L []) (cons : ∀ a as, A a → L as → L (a :: as)) : (∀ v, V v) ∧ (∀ a, A a) ∧ ∀ ms, L ms :=
  ⟨ind_value leaf grouped avp nil cons, ind_avp leaf grouped avp nil cons, ind_list leaf grouped avp nil cons⟩

theorem tyOf_ne_unknown (v : Value) : tyOf v ≠ .unknown := by cases v <;> simp [tyOf]

theorem leaf_cons {v : Value} (h : tyOf v ≠ .grouped) : v.Cons := by
  cases v <;> first | trivial | exact absurd rfl h
theorem leaf_nolie {v : Value} (h : tyOf v ≠ .grouped) : v.NoLie := by
  cases v <;> first | trivial | exact absurd rfl h
theorem leaf_typed (dict : Lookup) {v : Value} (h : tyOf v ≠ .grouped) : v.Typed dict := by
  cases v <;> first | trivial | exact absurd rfl h
theorem leaf_sz {v : Value} (h : tyOf v ≠ .grouped) : v.sz = 0 := by
  cases v <;> first | rfl | exact absurd rfl h
theorem leaf_depth {v : Value} (h : tyOf v ≠ .grouped) : v.depth = 0 := by
  cases v <;> first | rfl | exact absurd rfl h
theorem leaf_mask {v : Value} (h : tyOf v ≠ .grouped) : v.mask = List.replicate v.len .keep := by
  cases v <;> first | rfl | exact absurd rfl h

theorem fixed_len {v : Value} {n : Nat} (h : fixedSize (tyOf v) = some n) : v.len = n := by
  cases v <;> simp only [tyOf, fixedSize, Option.some.injEq, reduceCtorEq] at h <;> simp [Value.len, ← h]

/-- nothing is smaller than its header: the fuel bound of the round trip -/
theorem tree_sz_le : (∀ v : Value, v.Cons → v.sz ≤ 1 + v.len) ∧ (∀ a : Avp, a.Cons → a.sz + 1 ≤ a.padded) ∧
    ∀ ms : List Avp, ConsList ms → szList ms ≤ lenList ms := by
  refine Value.induct (fun v h _ => by rw [leaf_sz h]; omega) (fun ms ih hc => ?_)
    (fun _ vendor _ _ len padding v ih hc => ?_) (fun _ => Nat.le_refl _) (fun a as iha ihs hc => ?_)
  · have := ih hc
    simp only [Value.sz, Value.len]; omega
  · have := ih hc.2.2
    have := hc.1
    simp only [Avp.sz, Avp.padded, Avp.len, Avp.padding, hdrLen] at *
    split at this <;> omega
  · have := iha hc.1
    have := ihs hc.2
    simp only [szList, lenList]; omega

theorem Value.sz_le : ∀ v : Value, v.Cons → v.sz ≤ 1 + v.len := tree_sz_le.1
theorem Avp.sz_le : ∀ a : Avp, a.Cons → a.sz + 1 ≤ a.padded := tree_sz_le.2.1
theorem szList_le : ∀ ms : List Avp, ConsList ms → szList ms ≤ lenList ms := tree_sz_le.2.2

theorem tree_cons_nolie : (∀ v : Value, v.Cons → v.NoLie) ∧ (∀ a : Avp, a.Cons → a.NoLie) ∧
    ∀ ms : List Avp, ConsList ms → NoLieList ms :=
  Value.induct (fun _ h _ => leaf_nolie h) (fun _ ih hc => ih hc)
    (fun _ _ _ _ _ _ _ ih hc => ⟨fun n hn => by rw [hc.1, fixed_len hn], ih hc.2.2⟩) (fun _ => trivial)
    (fun _ _ iha ihs hc => ⟨iha hc.1, ihs hc.2⟩)

theorem Value.cons_nolie : ∀ v : Value, v.Cons → v.NoLie := tree_cons_nolie.1
theorem Avp.cons_nolie : ∀ a : Avp, a.Cons → a.NoLie := tree_cons_nolie.2.1
theorem consList_nolie : ∀ ms : List Avp, ConsList ms → NoLieList ms := tree_cons_nolie.2.2

theorem maskHdr_length (v : Option UInt32) : (maskHdr v).length = hdrLen v := by
  cases v <;> simp [maskHdr, hdrLen]

theorem tree_mask_len : (∀ v : Value, v.Cons → v.mask.length = v.len) ∧ (∀ a : Avp, a.Cons → a.mask.length = a.padded) ∧
    ∀ ms, ConsList ms → (maskList ms).length = lenList ms := by
  refine Value.induct (fun v h _ => by simp [leaf_mask h]) (fun ms ih hc => ih hc)
    (fun _ vendor _ _ len padding v ih hc => ?_) (fun _ => rfl) (fun a as iha ihs hc => ?_)
  · simp only [Avp.mask, List.length_append, maskHdr_length, ih hc.2.2, List.length_replicate, Avp.padded, Avp.len,
      Avp.padding, hc.1]
    omega
  · simp only [maskList, lenList, List.length_append, iha hc.1, ihs hc.2]

theorem Value.mask_len : ∀ v : Value, v.Cons → v.mask.length = v.len := tree_mask_len.1
theorem Avp.mask_len : ∀ a : Avp, a.Cons → a.mask.length = a.padded := tree_mask_len.2.1
theorem maskList_len : ∀ ms, ConsList ms → (maskList ms).length = lenList ms := tree_mask_len.2.2

theorem lenList_append (ms : List Avp) (a : Avp) : lenList (ms ++ [a]) = lenList ms + a.padded := by
  induction ms with
  | nil => simp [lenList]
  | cons x xs ih => simp only [List.cons_append, lenList, ih]; omega

theorem WFList_iff (ms : List Avp) : WFList ms ↔ ∀ a ∈ ms, a.WF := by
  induction ms with
  | nil => simp [WFList]
  | cons x xs ih => simp [WFList, ih]

theorem ConsList_iff (ms : List Avp) : ConsList ms ↔ ∀ a ∈ ms, a.Cons := by
  induction ms with
  | nil => simp [ConsList]
  | cons x xs ih => simp [ConsList, ih]

theorem applyMask_append {a b : Bytes} {ma mb : List MK} (h : a.length = ma.length) :
    applyMask (a ++ b) (ma ++ mb) = applyMask a ma ++ applyMask b mb :=
  List.zipWith_append h

theorem applyMask_keep {b : Bytes} {n : Nat} (h : b.length = n) : applyMask b (List.replicate n .keep) = b := by
  subst h
  induction b with
  | nil => rfl
  | cons x xs ih => simp [applyMask, List.replicate_succ, applyMK] at ih ⊢; exact ih

theorem applyMask_zero {b : Bytes} {n : Nat} (h : b.length = n) :
    applyMask b (List.replicate n .zero) = List.replicate n 0 := by
  subst h
  induction b with
  | nil => rfl
  | cons x xs ih => simp [applyMask, List.replicate_succ, applyMK] at ih ⊢; exact ih

theorem applyMask_length {x : Bytes} {m : List MK} (h : x.length = m.length) : (applyMask x m).length = m.length := by
  simp [applyMask, h]

theorem applyMask_split {x y1 y2 : Bytes} {m1 m2 : List MK}
    (hl : x.length = (m1 ++ m2).length) (he : applyMask x (m1 ++ m2) = y1 ++ y2) (hy : y1.length = m1.length) :
    ∃ x1 x2, x = x1 ++ x2 ∧ x1.length = m1.length ∧ x2.length = m2.length ∧
      applyMask x1 m1 = y1 ∧ applyMask x2 m2 = y2 := by
  have hl' : m1.length ≤ x.length := by simp at hl; omega
  refine ⟨x.take m1.length, x.drop m1.length, by simp, by simp; omega, by simp at hl ⊢; omega, ?_⟩
  have hx : x = x.take m1.length ++ x.drop m1.length := by simp
  rw [hx, applyMask_append (by simp; omega)] at he
  have hlen : (applyMask (x.take m1.length) m1).length = y1.length := by
    rw [applyMask_length (by simp; omega), hy]
  exact List.append_inj he hlen

end Dia
