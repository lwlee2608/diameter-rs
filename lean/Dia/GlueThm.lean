import Dia.Dump
/-! The text form of octet strings shared by the driver and the harness: what `hex` / `hexOrDash` print, `unhex?` reads back
unchanged. (Part of the driver's glue - not a property theorem; it takes the hex layer out of the trusted base of the tie.) -/
namespace Dia

theorem hexVal_hexDigit : ∀ n : Fin 16, hexVal? (hexDigit n.val) = some n.val := by decide

theorem hexChars_cons (x : UInt8) (t : Bytes) (rest : List Char) :
    hexChars (x :: t) rest = hexDigit (x.toNat / 16) :: hexDigit (x.toNat % 16) :: hexChars t rest := by
  simp [hexChars]

theorem unhexList_hexChars (b : Bytes) (rest : List Char) (acc : Bytes) :
    unhexList (hexChars b rest) acc = unhexList rest (b.reverse ++ acc) := by
  induction b generalizing acc with
  | nil => simp [hexChars]
  | cons x t ih =>
    rw [hexChars_cons, unhexList]
    have h1 := hexVal_hexDigit ⟨x.toNat / 16, by have := x.toNat_lt; omega⟩
    have h2 := hexVal_hexDigit ⟨x.toNat % 16, by omega⟩
    simp only [h1, h2]
    rw [ih, Nat.div_add_mod']
    simp

/-- reading back what was printed -/
theorem unhexList_hex (b : Bytes) : unhexList (hexChars b []) [] = some b := by
  rw [unhexList_hexChars]
  simp [unhexList]

theorem hexChars_length (b : Bytes) : (hexChars b []).length = 2 * b.length := by
  induction b with
  | nil => simp [hexChars]
  | cons x t ih => rw [hexChars_cons]; simp [ih]; omega

theorem unhex_hexOrDash (b : Bytes) : unhex? (hexOrDash b) = some b := by
  unfold hexOrDash
  cases b with
  | nil => simp [unhex?]
  | cons x t =>
    simp only [List.isEmpty_cons, Bool.false_eq_true, if_false]
    unfold unhex? hex
    have hne : String.ofList (hexChars (x :: t) []) ≠ "-" := by
      intro h
      have h2 := congrArg String.length h
      have h3 : ("-" : String).length = 1 := by decide
      rw [String.length_ofList, hexChars_length, h3, List.length_cons] at h2
      omega
    rw [if_neg hne]
    simpa using unhexList_hex (x :: t)

end Dia
