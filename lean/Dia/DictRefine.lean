import Dia.DictThm
/-! Dictionary histories, their abstract spec (the list of supplied definitions) and the refinement lemmas. -/
namespace Dia

inductive DOp
  | construct (docs : List Doc)      -- `Dictionary::new(&[doc, ...])`
  | load (doc : Doc)                 -- `load_xml`
  | add (d : Def)                    -- `add_avp`

def docDefs (doc : Doc) : List Def := doc.flatMap fun app => app.avps.map DocAvp.toDef
def docApps (doc : Doc) : List (String × Nat) := doc.map fun app => (app.name, app.id)
def docCmds (doc : Doc) : List (String × Nat) := doc.flatMap fun app => app.cmds.map fun c => (c.2, c.1)

def DOp.apply (D : Dict) : DOp → Dict
  | .construct docs => docs.foldl Dict.loadDoc Dict.empty
  | .load doc => D.loadDoc doc
  | .add d => D.add d

def runD (ops : List DOp) : Dict := ops.foldl DOp.apply Dict.empty

/-- the spec state: every definition supplied since the last construction, oldest first -/
def DOp.supply (defs : List Def) : DOp → List Def
  | .construct docs => docs.flatMap docDefs
  | .load doc => defs ++ docDefs doc
  | .add d => defs ++ [d]

def supplied (ops : List DOp) : List Def := ops.foldl DOp.supply []

/-- the spec lookup: the most recently supplied definition for exactly that key -/
def specGet (defs : List Def) (k : Key) : Option Def := defs.reverse.find? (fun d => d.key = k)

theorem specGet_append_one (defs : List Def) (d : Def) (k : Key) :
    specGet (defs ++ [d]) k = if d.key = k then some d else specGet defs k := by
  simp only [specGet, List.reverse_append, List.reverse_cons, List.reverse_nil, List.nil_append, List.cons_append,
    List.find?_cons]
  by_cases h : d.key = k <;> simp [h]

/-! Loading in closed form: the definitions are inserted one by one in document order; application and command
names are pushed in front of their tables. -/

theorem loadApp_eq (D : Dict) (app : DocApp) : D.loadApp app =
    { avps := (app.avps.map DocAvp.toDef).foldl (fun l d => insertKV l d.key d) D.avps
      apps := (app.name, app.id) :: D.apps
      cmds := (app.cmds.map fun c => (c.2, c.1)).reverse ++ D.cmds } := by
  have hc (cs : List (Nat × String)) (D : Dict) : cs.foldl (fun D c => { D with cmds := (c.2, c.1) :: D.cmds }) D =
      { D with cmds := (cs.map fun c => (c.2, c.1)).reverse ++ D.cmds } := by
    induction cs generalizing D <;> simp [*]
  have ha (as : List DocAvp) (D : Dict) : as.foldl (fun D a => D.add a.toDef) D =
      { D with avps := (as.map DocAvp.toDef).foldl (fun l d => insertKV l d.key d) D.avps } := by
    induction as generalizing D with
    | nil => rfl
    | cons a as ih => rw [List.foldl_cons, ih]; rfl
  rw [Dict.loadApp, hc, ha]

theorem loadDoc_eq (D : Dict) (doc : Doc) : D.loadDoc doc =
    { avps := (docDefs doc).foldl (fun l d => insertKV l d.key d) D.avps
      apps := (docApps doc).reverse ++ D.apps
      cmds := (docCmds doc).reverse ++ D.cmds } := by
  unfold Dict.loadDoc docDefs docApps docCmds
  induction doc generalizing D <;> simp [*, loadApp_eq]

theorem construct_eq (D : Dict) (docs : List Doc) : docs.foldl Dict.loadDoc D =
    { avps := (docs.flatMap docDefs).foldl (fun l d => insertKV l d.key d) D.avps
      apps := (docs.flatMap docApps).reverse ++ D.apps
      cmds := (docs.flatMap docCmds).reverse ++ D.cmds } := by
  induction docs generalizing D <;> simp [*, loadDoc_eq]

/-- representation invariant of the concrete dictionary against a list of supplied definitions -/
structure Refines (l : List (Key × Def)) (defs : List Def) : Prop where
  get : ∀ k, lookupKV l k = specGet defs k
  sorted : SortedKV l
  keys : ∀ k d, (k, d) ∈ l → k = d.key

theorem refines_nil : Refines [] [] := ⟨fun _ => rfl, trivial, fun _ _ h => by cases h⟩

theorem refines_add {l : List (Key × Def)} {defs : List Def} (h : Refines l defs) (d : Def) :
    Refines (insertKV l d.key d) (defs ++ [d]) := by
  refine ⟨fun k => ?_, sorted_insertKV l _ d h.sorted, ?_⟩
  · rw [lookup_insert, specGet_append_one, h.get]
  · intro k x hx
    rcases mem_insertKV hx with r | r
    · cases r; rfl
    · exact h.keys k x r

theorem refines_addAll {l : List (Key × Def)} {defs : List Def} (h : Refines l defs) (ds : List Def) :
    Refines (ds.foldl (fun l d => insertKV l d.key d) l) (defs ++ ds) := by
  induction ds generalizing l defs with
  | nil => simpa using h
  | cons d ds ih => simpa using ih (refines_add h d)

theorem loadDoc_refines {D : Dict} {defs : List Def} (h : Refines D.avps defs) (doc : Doc) :
    Refines (D.loadDoc doc).avps (defs ++ docDefs doc) := by
  rw [loadDoc_eq]
  exact refines_addAll h _

theorem construct_refines (docs : List Doc) :
    Refines (docs.foldl Dict.loadDoc Dict.empty).avps (docs.flatMap docDefs) := by
  rw [construct_eq]
  exact refines_addAll refines_nil _

/-! ### application and command names over histories
The last declaration of a name wins. -/

def DOp.declApps (acc : List (String × Nat)) : DOp → List (String × Nat)
  | .construct docs => docs.flatMap docApps
  | .load doc => acc ++ docApps doc
  | .add _ => acc
def DOp.declCmds (acc : List (String × Nat)) : DOp → List (String × Nat)
  | .construct docs => docs.flatMap docCmds
  | .load doc => acc ++ docCmds doc
  | .add _ => acc

/-- every application / command declaration supplied since the last construction, oldest first -/
def declaredApps (ops : List DOp) : List (String × Nat) := ops.foldl DOp.declApps []
def declaredCmds (ops : List DOp) : List (String × Nat) := ops.foldl DOp.declCmds []

/-- the concrete tables are the declarations in reverse order (newest first) -/
theorem run_apps_cmds (ops : List DOp) :
    (runD ops).apps = (declaredApps ops).reverse ∧ (runD ops).cmds = (declaredCmds ops).reverse := by
  constructor
  · refine List.foldl_rel (r := fun (D : Dict) (a : List (String × Nat)) => D.apps = a.reverse) rfl ?_
    intro op _ D a h
    cases op <;> simp [DOp.apply, DOp.declApps, construct_eq, loadDoc_eq, Dict.add, Dict.empty, h]
  · refine List.foldl_rel (r := fun (D : Dict) (c : List (String × Nat)) => D.cmds = c.reverse) rfl ?_
    intro op _ D c h
    cases op <;> simp [DOp.apply, DOp.declCmds, construct_eq, loadDoc_eq, Dict.add, Dict.empty, h]

theorem lookupName_eq_find (l : List (String × Nat)) (n : String) :
    lookupName l n = (l.find? (fun p => p.1 = n)).map (·.2) := by
  induction l with
  | nil => rfl
  | cons x xs ih =>
    obtain ⟨k, v⟩ := x
    simp only [lookupName]
    by_cases h : k = n <;> simp [h, ih]

end Dia
