import Dia.Tree
/-! The encoder on consistent, well-formed trees: it does not fail and produces as many octets as the stored lengths say.
`Wire`: the octet strings that are a tree's encoding up to padding octets and reserved flag bits, taken apart along the tree
(`leaf_wire`, `Avp.wire_iff`, `wireList_cons`); the encoding itself is one of them (`tree_enc_wire`). -/
namespace Dia

theorem Enc.andThen_ok (x : Bytes) (f : Unit → Enc) : (Enc.mk x none).andThen f = ⟨x ++ (f ()).bytes, (f ()).err⟩ := rfl

theorem Enc.andThen_of_ok {a : Enc} (h : a.err = none) (f : Unit → Enc) :
    a.andThen f = ⟨a.bytes ++ (f ()).bytes, (f ()).err⟩ := by
  unfold Enc.andThen; rw [h]

theorem Enc.andThen_err_none {a : Enc} {f : Unit → Enc} (h : (a.andThen f).err = none) :
    a.err = none ∧ (f ()).err = none ∧ (a.andThen f).bytes = a.bytes ++ (f ()).bytes := by
  cases ha : a.err with
  | some e => simp [Enc.andThen, ha] at h
  | none => rw [Enc.andThen_of_ok ha] at h ⊢; exact ⟨rfl, h, rfl⟩

theorem Enc.eq_mk {e : Enc} {b : Bytes} (he : e.err = none) (hb : e.bytes = b) : e = ⟨b, none⟩ := by
  cases e; cases he; cases hb; rfl

theorem encHdr_ok {code : UInt32} {vendor : Option UInt32} {m p : Bool} {len : Nat} (h : len < 16777216) :
    encHdr code vendor m p len = ⟨hdrBytes code vendor m p len, none⟩ := by
  unfold encHdr; rw [if_neg (by omega)]; rfl

theorem Avp.enc_eq {code : UInt32} {vendor : Option UInt32} {m p : Bool} {len padding : Nat} {v : Value}
    (h24 : len < 16777216) (hv : v.enc.err = none) : (Avp.mk code vendor m p len padding v).enc =
      ⟨hdrBytes code vendor m p len ++ (v.enc.bytes ++ List.replicate padding 0), none⟩ := by
  rw [Avp.enc, encHdr_ok h24, Enc.andThen_ok, Enc.andThen_of_ok hv]
  rfl

theorem Avp.enc_err_none {code : UInt32} {vendor : Option UInt32} {m p : Bool} {len padding : Nat} {v : Value}
    (h : (Avp.mk code vendor m p len padding v).enc.err = none) : len < 16777216 ∧ v.enc.err = none := by
  obtain ⟨h1, h2, _⟩ := Enc.andThen_err_none h
  refine ⟨?_, (Enc.andThen_err_none h2).1⟩
  unfold encHdr at h1
  split at h1
  · cases h1
  · omega

theorem encList_cons_eq {a : Avp} (as : List Avp) (ha : a.enc.err = none) :
    encList (a :: as) = ⟨a.enc.bytes ++ (encList as).bytes, (encList as).err⟩ := by
  rw [encList, Enc.andThen_of_ok ha]

theorem hdrBytes_length (code : UInt32) (vendor : Option UInt32) (m p : Bool) (len : Nat) :
    (hdrBytes code vendor m p len).length = hdrLen vendor := by
  cases vendor <;> simp [hdrBytes, hdrLen]

theorem hdrBytes_flags (code : UInt32) (vendor : Option UInt32) (m p : Bool) (len : Nat) (rest : Bytes) :
    (hdrBytes code vendor m p len ++ rest).getD 4 0 = flagsByte vendor m p := by
  simp [hdrBytes, be32]

theorem leaf_enc_ok {v : Value} (h : tyOf v ≠ .grouped) (hwf : v.WF) : v.enc.err = none ∧ v.enc.bytes.length = v.len := by
  cases v with
  | grouped ms => exact absurd rfl h
  | time s n =>
    simp only [Value.WF, Value.leafWF] at hwf
    simp only [Value.enc]
    rw [if_neg (by omega), if_neg (by omega)]
    exact ⟨rfl, rfl⟩
  | address a => cases a <;> simp_all [Value.WF, Value.leafWF, Value.enc, Enc.ok, Value.len] <;> omega
  | _ => simp_all [Value.WF, Value.leafWF, Value.enc, Enc.ok, Value.len]

theorem tree_enc_ok : (∀ v : Value, v.WF → v.Cons → v.enc.err = none ∧ v.enc.bytes.length = v.len) ∧
    (∀ a : Avp, a.WF → a.Cons → a.enc.err = none ∧ a.enc.bytes.length = a.padded) ∧
    ∀ ms, WFList ms → ConsList ms → (encList ms).err = none ∧ (encList ms).bytes.length = lenList ms := by
  refine Value.induct (fun v h hwf _ => leaf_enc_ok h hwf) (fun ms ih hwf hc => ih hwf hc)
    (fun code vendor m p len padding v ih hwf hc => ?_) (fun _ _ => ⟨rfl, rfl⟩) (fun a as iha ihs hwf hc => ?_)
  · obtain ⟨rfl, rfl, hcv⟩ := hc
    obtain ⟨he, hl⟩ := ih hwf.2 hcv
    rw [Avp.enc_eq hwf.1 he]
    simp only [List.length_append, hdrBytes_length, hl, List.length_replicate, Avp.padded, Avp.len, Avp.padding, true_and]
    omega
  · obtain ⟨he, hl⟩ := iha hwf.1 hc.1
    obtain ⟨hes, hls⟩ := ihs hwf.2 hc.2
    rw [encList_cons_eq as he]
    simp only [hes, List.length_append, hl, hls, lenList, true_and]

theorem Value.enc_ok : ∀ v : Value, v.WF → v.Cons → v.enc.err = none ∧ v.enc.bytes.length = v.len := tree_enc_ok.1
theorem Avp.enc_ok : ∀ a : Avp, a.WF → a.Cons → a.enc.err = none ∧ a.enc.bytes.length = a.padded := tree_enc_ok.2.1
theorem encList_ok : ∀ ms, WFList ms → ConsList ms → (encList ms).err = none ∧ (encList ms).bytes.length = lenList ms :=
  tree_enc_ok.2.2

theorem flagsByte_fix (vendor : Option UInt32) (m p : Bool) : flagsByte vendor m p &&& 0xE0 = flagsByte vendor m p := by
  cases vendor <;> cases m <;> cases p <;> simp [flagsByte] <;> decide

theorem hdrBytes_fix (code : UInt32) (vendor : Option UInt32) (m p : Bool) (len : Nat) :
    applyMask (hdrBytes code vendor m p len) (maskHdr vendor) = hdrBytes code vendor m p len := by
  cases vendor <;>
    simp [hdrBytes, maskHdr, applyMask, applyMK, be32, be24, flagsByte_fix]

/-! ### wire forms

The relation between octets and trees that both directions of the decoder's correctness speak of. -/

/-- `x` is a wire form of a tree with these predicates, mask and encoding: the tree is consistent and well formed, and `x` is -
padding octets and reserved flag bits aside, which the mask blanks out - its encoding -/
structure WireForm (cons wf : Prop) (mask : List MK) (enc : Enc) (x : Bytes) : Prop where
  cons : cons
  wf : wf
  len : x.length = mask.length
  enc : enc = ⟨applyMask x mask, none⟩

abbrev Value.Wire (v : Value) : Bytes → Prop := WireForm v.Cons v.WF v.mask v.enc
abbrev Avp.Wire (a : Avp) : Bytes → Prop := WireForm a.Cons a.WF a.mask a.enc
abbrev WireList (ms : List Avp) : Bytes → Prop := WireForm (ConsList ms) (WFList ms) (maskList ms) (encList ms)

theorem leaf_wire {v : Value} {x : Bytes} (h : tyOf v ≠ .grouped) : v.Wire x ↔ v.WF ∧ v.enc = ⟨x, none⟩ := by
  constructor
  · rintro ⟨_, hwf, hl, he⟩
    rw [leaf_mask h] at hl he
    exact ⟨hwf, by rwa [applyMask_keep (by simpa using hl)] at he⟩
  · rintro ⟨hwf, he⟩
    have hl := (leaf_enc_ok h hwf).2
    rw [he] at hl
    refine ⟨leaf_cons h, hwf, ?_, ?_⟩ <;> rw [leaf_mask h]
    · simpa using hl
    · rwa [applyMask_keep hl]

/-- the wire forms of an AVP: a header (whose reserved flag bits are free), a wire form of the value, and as many octets of
any content as the padding says -/
theorem Avp.wire_iff {code : UInt32} {vendor : Option UInt32} {m p : Bool} {len padding : Nat} {v : Value} {x : Bytes} :
    (Avp.mk code vendor m p len padding v).Wire x ↔ len < 16777216 ∧ len = hdrLen vendor + v.len ∧ padding = pad v.len ∧
      ∃ hb vb pb, x = hb ++ (vb ++ pb) ∧ hb.length = (maskHdr vendor).length ∧
        applyMask hb (maskHdr vendor) = hdrBytes code vendor m p len ∧ v.Wire vb ∧ pb.length = padding := by
  constructor
  · rintro ⟨⟨hlen, hpad, hvc⟩, ⟨h24, hvwf⟩, hl, he⟩
    obtain ⟨hve, hvl⟩ := Value.enc_ok v hvwf hvc
    simp only [Avp.enc_eq h24 hve, Avp.mask, Enc.mk.injEq, and_true] at he hl
    obtain ⟨hb, rest, rfl, hl1, hl2, hm1, hm2⟩ := applyMask_split hl he.symm (by rw [hdrBytes_length, maskHdr_length])
    obtain ⟨vb, pb, rfl, hl3, hl4, hm3, _⟩ := applyMask_split hl2 hm2 (by rw [hvl, Value.mask_len v hvc])
    exact ⟨h24, hlen, hpad, hb, vb, pb, rfl, hl1, hm1, ⟨hvc, hvwf, hl3, Enc.eq_mk hve hm3.symm⟩,
      by rwa [List.length_replicate] at hl4⟩
  · rintro ⟨h24, hlen, hpad, hb, vb, pb, rfl, hl1, hm1, hv, hl4⟩
    refine ⟨⟨hlen, hpad, hv.cons⟩, ⟨h24, hv.wf⟩, by simp [Avp.mask, hl1, hv.len, hl4], ?_⟩
    rw [Avp.enc_eq h24 (congrArg Enc.err hv.enc), Avp.mask, applyMask_append hl1, applyMask_append hv.len,
      hm1, applyMask_zero hl4, show v.enc.bytes = applyMask vb v.mask from congrArg Enc.bytes hv.enc]

theorem wireList_nil : WireList [] [] := ⟨trivial, trivial, rfl, rfl⟩

theorem wireList_cons {a : Avp} {as : List Avp} {x : Bytes} :
    WireList (a :: as) x ↔ ∃ x1 x2, x = x1 ++ x2 ∧ a.Wire x1 ∧ WireList as x2 := by
  constructor
  · rintro ⟨hc, hwf, hl, he⟩
    obtain ⟨hae, hal⟩ := Avp.enc_ok a hwf.1 hc.1
    obtain ⟨hase, _⟩ := encList_ok as hwf.2 hc.2
    simp only [maskList, encList_cons_eq as hae, Enc.mk.injEq] at hl he
    obtain ⟨x1, x2, rfl, hl1, hl2, hm1, hm2⟩ := applyMask_split hl he.1.symm (by rw [hal, Avp.mask_len a hc.1])
    exact ⟨x1, x2, rfl, ⟨hc.1, hwf.1, hl1, Enc.eq_mk hae hm1.symm⟩, ⟨hc.2, hwf.2, hl2, Enc.eq_mk hase hm2.symm⟩⟩
  · rintro ⟨x1, x2, rfl, ha, hs⟩
    refine ⟨⟨ha.cons, hs.cons⟩, ⟨ha.wf, hs.wf⟩, by simp [maskList, ha.len, hs.len], ?_⟩
    rw [encList, ha.enc, Enc.andThen_ok, hs.enc, maskList, applyMask_append ha.len]

theorem tree_enc_wire : (∀ v : Value, v.WF → v.Cons → v.Wire v.enc.bytes) ∧ (∀ a : Avp, a.WF → a.Cons → a.Wire a.enc.bytes) ∧
    ∀ ms, WFList ms → ConsList ms → WireList ms (encList ms).bytes := by
  refine Value.induct (fun v h hwf _ => (leaf_wire h).mpr ⟨hwf, Enc.eq_mk (leaf_enc_ok h hwf).1 rfl⟩)
    (fun ms ih hwf hc => ih hwf hc) (fun code vendor m p len padding v ih hwf hc => ?_)
    (fun _ _ => wireList_nil) (fun a as iha ihs hwf hc => ?_)
  · refine Avp.wire_iff.mpr ⟨hwf.1, hc.1, hc.2.1, _, _, List.replicate padding 0, ?_, by rw [hdrBytes_length, maskHdr_length],
      hdrBytes_fix .., ih hwf.2 hc.2.2, List.length_replicate ..⟩
    rw [Avp.enc_eq hwf.1 (Value.enc_ok v hwf.2 hc.2.2).1]
  · refine wireList_cons.mpr ⟨_, _, ?_, iha hwf.1 hc.1, ihs hwf.2 hc.2⟩
    rw [encList_cons_eq as (Avp.enc_ok a hwf.1 hc.1).1]

theorem encList_wire : ∀ ms, WFList ms → ConsList ms → WireList ms (encList ms).bytes := tree_enc_wire.2.2

/- in particular the encoding is a fixed point of its own mask -/
theorem Value.enc_fix : ∀ v : Value, v.WF → v.Cons → v.enc.err = none → applyMask v.enc.bytes v.mask = v.enc.bytes :=
  fun v hwf hc _ => (congrArg Enc.bytes (tree_enc_wire.1 v hwf hc).enc).symm
theorem Avp.enc_fix : ∀ a : Avp, a.WF → a.Cons → a.enc.err = none → applyMask a.enc.bytes a.mask = a.enc.bytes :=
  fun a hwf hc _ => (congrArg Enc.bytes (tree_enc_wire.2.1 a hwf hc).enc).symm
theorem encList_fix : ∀ ms : List Avp, WFList ms → ConsList ms → (encList ms).err = none →
    applyMask (encList ms).bytes (maskList ms) = (encList ms).bytes :=
  fun ms hwf hc _ => (congrArg Enc.bytes (encList_wire ms hwf hc).enc).symm

def Msg.hdrBytes (m : Msg) : Bytes :=
  m.version :: be24 m.length ++ m.flags :: be24 m.cmd ++ be32 m.app ++ be32 m.hbh.toNat ++ be32 m.e2e.toNat

theorem Msg.hdrBytes_length (m : Msg) : m.hdrBytes.length = 20 := by simp [Msg.hdrBytes]

/-- twenty octets are the header of the message whose fields `decMsg` reads off them (and the length it reads fits 24 bits) -/
theorem hdr20 {h : Bytes} (hl : h.length = 20) (avps : List Avp) :
    h = Msg.hdrBytes ⟨h.getD 0 0, fromBe ((h.drop 1).take 3), h.getD 4 0, fromBe ((h.drop 5).take 3),
      fromBe ((h.drop 8).take 4), (fromBe ((h.drop 12).take 4)).toUInt32, (fromBe ((h.drop 16).take 4)).toUInt32, avps⟩ ∧
    fromBe ((h.drop 1).take 3) < 16777216 := by
  have len : ∀ k n, k + n ≤ 20 → ((h.drop k).take n).length = n := fun k n hk => by
    rw [List.length_take, List.length_drop]
    omega
  have b1 := be24_fromBe_len (len 1 3 (by omega))
  have b5 := be24_fromBe_len (len 5 3 (by omega))
  have b8 := be32_fromBe_len (len 8 4 (by omega))
  have b12 := be32_fromBe_len (len 12 4 (by omega))
  have b16 := be32_fromBe_len (len 16 4 (by omega))
  refine ⟨?_, b1.2⟩
  -- the numbers spell the pieces they were read off; the pieces, put together from the right, are `h`
  simp only [Msg.hdrBytes]
  rw [b1.1, b5.1, b8.1, UInt32.toNat_ofNat_of_lt' b12.2, b12.1, UInt32.toNat_ofNat_of_lt' b16.2, b16.1]
  simp only [List.append_assoc, List.cons_append]
  rw [List.take_of_length_le (l := h.drop 16) (i := 4) (by rw [List.length_drop]; omega),
    take_append_drop_drop h 12 4 16 rfl, take_append_drop_drop h 8 4 12 rfl, take_append_drop_drop h 5 3 8 rfl,
    getD_cons_drop h 0 (by omega), take_append_drop_drop h 1 3 4 rfl, getD_cons_drop h 0 (by omega)]
  rfl

/-- and conversely: what `decMsg` reads off the header of a message -/
theorem Msg.hdrBytes_fields (m : Msg) :
    m.hdrBytes.getD 0 0 = m.version ∧ (m.hdrBytes.drop 1).take 3 = be24 m.length ∧ m.hdrBytes.getD 4 0 = m.flags ∧
      (m.hdrBytes.drop 5).take 3 = be24 m.cmd ∧ (m.hdrBytes.drop 8).take 4 = be32 m.app ∧
      (m.hdrBytes.drop 12).take 4 = be32 m.hbh.toNat ∧ (m.hdrBytes.drop 16).take 4 = be32 m.e2e.toNat :=
  ⟨rfl, rfl, rfl, rfl, rfl, rfl, rfl⟩

theorem Msg.enc_eq {m : Msg} (h24 : m.length < 16777216) :
    m.enc = (Enc.ok m.hdrBytes).andThen fun _ => encList m.avps := by
  unfold Msg.enc; rw [if_neg (by omega)]; rfl

theorem Msg.enc_err_none {m : Msg} (h : m.enc.err = none) : m.length < 16777216 := by
  unfold Msg.enc at h
  split at h
  · simp at h
  · omega

end Dia
