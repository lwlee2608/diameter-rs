import Dia.Spec
import Dia.Tree
/-! The reading side of the independent specification: which octets of an RFC 6733 encoding are significant (`mask`),
which content the wire can carry and the library can represent (`Valid`), typing by a dictionary, nesting depth, and
the relation `Parses dict bs s`: "an RFC 6733 reader extracts `s` from the octets `bs`" - `bs` is the encoding of `s`
up to AVP padding octets and the five reserved AVP flag bits. Nothing here mentions the model of the code. -/
namespace Dia.Spec

def SData.ty : SData → Ty
  | .address _ => .address | .ipv4 _ => .ipv4 | .ipv6 _ => .ipv6 | .identity _ => .identity | .uri _ => .uri
  | .enumerated _ => .enumerated | .float32 _ => .float32 | .float64 _ => .float64 | .grouped _ => .grouped
  | .integer32 _ => .integer32 | .integer64 _ => .integer64 | .octets _ => .octets | .time _ => .time
  | .unsigned32 _ => .unsigned32 | .unsigned64 _ => .unsigned64 | .utf8 _ => .utf8

def hdrSize (vendor : Option UInt32) : Nat := match vendor with | some _ => 12 | none => 8

mutual
def SData.mask : SData → List MK
  | .grouped ms => maskAvps ms
  | .address a => List.replicate (SData.address a).bytes.length .keep
  | .ipv4 b => List.replicate (SData.ipv4 b).bytes.length .keep
  | .ipv6 b => List.replicate (SData.ipv6 b).bytes.length .keep
  | .identity b => List.replicate (SData.identity b).bytes.length .keep
  | .uri b => List.replicate (SData.uri b).bytes.length .keep
  | .enumerated b => List.replicate (SData.enumerated b).bytes.length .keep
  | .float32 b => List.replicate (SData.float32 b).bytes.length .keep
  | .float64 b => List.replicate (SData.float64 b).bytes.length .keep
  | .integer32 b => List.replicate (SData.integer32 b).bytes.length .keep
  | .integer64 b => List.replicate (SData.integer64 b).bytes.length .keep
  | .octets b => List.replicate (SData.octets b).bytes.length .keep
  | .time t => List.replicate (SData.time t).bytes.length .keep
  | .unsigned32 b => List.replicate (SData.unsigned32 b).bytes.length .keep
  | .unsigned64 b => List.replicate (SData.unsigned64 b).bytes.length .keep
  | .utf8 b => List.replicate (SData.utf8 b).bytes.length .keep
/-- header octets count (of the flags octet only V, M, P), data as the type says, padding does not -/
def SAvp.mask : SAvp → List MK
  | .mk _ vendor _ _ d => maskHdr vendor ++ (d.mask ++ List.replicate (padTo4 d.bytes.length) .zero)
def maskAvps : List SAvp → List MK
  | [] => []
  | a :: as => a.mask ++ maskAvps as
end

def SMsg.mask (s : SMsg) : List MK := List.replicate 20 .keep ++ maskAvps s.avps

/-- what a value must satisfy to exist on the wire and in the library's value domain: address families 1, 2, 8 with 4,
16 and 1..15 octets, text is well-formed UTF-8, Time fits 32 bits -/
def SData.leafValid : SData → Prop
  | .address (.v4 b) => b.length = 4
  | .address (.v6 b) => b.length = 16
  | .address (.e164 s) => 1 ≤ s.length ∧ s.length ≤ 15 ∧ utf8Valid s = true
  | .ipv4 b => b.length = 4
  | .ipv6 b => b.length = 16
  | .identity s => utf8Valid s = true
  | .utf8 s => utf8Valid s = true
  | .time t => t < 4294967296
  | _ => True

mutual
def SData.Valid : SData → Prop
  | .grouped ms => ValidAvps ms
  | .address a => (SData.address a).leafValid
  | .ipv4 b => (SData.ipv4 b).leafValid
  | .ipv6 b => (SData.ipv6 b).leafValid
  | .identity b => (SData.identity b).leafValid
  | .utf8 b => (SData.utf8 b).leafValid
  | .time t => (SData.time t).leafValid
  | .uri _ => True | .enumerated _ => True | .float32 _ => True | .float64 _ => True
  | .integer32 _ => True | .integer64 _ => True | .octets _ => True | .unsigned32 _ => True | .unsigned64 _ => True
/-- ... and the AVP length fits its 24-bit field -/
def SAvp.Valid : SAvp → Prop
  | .mk _ vendor _ _ d => hdrSize vendor + d.bytes.length < 16777216 ∧ d.Valid
def ValidAvps : List SAvp → Prop
  | [] => True
  | a :: as => a.Valid ∧ ValidAvps as
end

mutual
def SData.Typed (dict : Lookup) : SData → Prop
  | .grouped ms => TypedAvps dict ms
  | .address _ => True | .ipv4 _ => True | .ipv6 _ => True | .identity _ => True | .uri _ => True
  | .enumerated _ => True | .float32 _ => True | .float64 _ => True | .integer32 _ => True | .integer64 _ => True
  | .octets _ => True | .time _ => True | .unsigned32 _ => True | .unsigned64 _ => True | .utf8 _ => True
/-- the dictionary entry for exactly this (code, vendor) pair declares the type of the data -/
def SAvp.Typed (dict : Lookup) : SAvp → Prop
  | .mk code vendor _ _ d => dict code vendor = d.ty ∧ d.Typed dict
def TypedAvps (dict : Lookup) : List SAvp → Prop
  | [] => True
  | a :: as => a.Typed dict ∧ TypedAvps dict as
end

mutual
def SData.depth : SData → Nat
  | .grouped ms => 1 + depthAvps ms
  | .address _ => 0 | .ipv4 _ => 0 | .ipv6 _ => 0 | .identity _ => 0 | .uri _ => 0
  | .enumerated _ => 0 | .float32 _ => 0 | .float64 _ => 0 | .integer32 _ => 0 | .integer64 _ => 0
  | .octets _ => 0 | .time _ => 0 | .unsigned32 _ => 0 | .unsigned64 _ => 0 | .utf8 _ => 0
def SAvp.depth : SAvp → Nat
  | .mk _ _ _ _ d => d.depth
def depthAvps : List SAvp → Nat
  | [] => 0
  | a :: as => max a.depth (depthAvps as)
end

/-- **"an RFC 6733 reader extracts `s` from `bs`"**: `s` is a message the library can represent (known command code
and application id, valid values, AVPs typed by the dictionary), `bs` has exactly the size of its encoding, and `bs`
equals that encoding on every significant octet and bit. -/
structure Parses (T : Tables) (dict : Lookup) (bs : Bytes) (s : SMsg) : Prop where
  cmd : T.cmdKnown s.cmd = true
  app : T.appKnown s.app = true
  valid : ValidAvps s.avps
  typed : TypedAvps dict s.avps
  small : (encode s).length < 16777216
  size : bs.length = (encode s).length
  masked : applyMask bs s.mask = encode s

end Dia.Spec
