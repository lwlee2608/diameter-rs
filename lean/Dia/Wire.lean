import Dia.Model
/-! Lemmas about the vocabulary of the codec model: `Out.bind`, big-endian numbers, and the read cursor with its three
measures (`isIn`, `vlen`, `rem`). -/
namespace Dia

theorem Out.bind_eq_ok {α β} {x : Out α} {f : α → Out β} {r : β} :
    x.bind f = .ok r ↔ ∃ a, x = .ok a ∧ f a = .ok r := by
  cases x <;> simp [Out.bind]

@[simp] theorem Out.bind_ok {α β} (a : α) (f : α → Out β) : (Out.ok a).bind f = f a := rfl

/-- `x` is not a panic provided `p`, and not the model's own "out of fuel" provided `f`. The decoders below the recursion are
safe unconditionally (for every `p` and `f`); `decAvp` and `decGroup` need a bounded length for the one and enough fuel for
the other. -/
def Out.Safe {α} (p f : Prop) (x : Out α) : Prop := (p → x ≠ .panic) ∧ (f → x ≠ .err .fuel)

theorem Out.Safe.bind {α β} {p f : Prop} {x : Out α} {g : α → Out β} (hx : x.Safe p f)
    (hg : ∀ a, x = .ok a → (g a).Safe p f) : (x.bind g).Safe p f := by
  cases x with
  | ok a => exact hg a rfl
  | err e => exact ⟨fun _ => nofun, fun h => by simpa [Out.bind] using hx.2 h⟩
  | panic => exact ⟨fun h => absurd rfl (hx.1 h), fun _ => nofun⟩

theorem Out.Safe.mono {α} {p f p' f' : Prop} {x : Out α} (h : x.Safe p f) (hp : p' → p) (hf : f' → f) : x.Safe p' f' :=
  ⟨fun h' => h.1 (hp h'), fun h' => h.2 (hf h')⟩

theorem Out.Safe.ok {α} {p f : Prop} (a : α) : (Out.ok a).Safe p f := ⟨fun _ => nofun, fun _ => nofun⟩

theorem Out.Safe.err {α} {p f : Prop} {e : Err} (h : e ≠ .fuel) : (Out.err e : Out α).Safe p f :=
  ⟨fun _ => nofun, fun _ => by simpa using h⟩

/-- What one walk along a decoder below the recursion establishes: `x` is safe whatever `p` and `f` (so stated that it serves
wherever some `Safe p f` is asked for), and a result it returns satisfies `P`. -/
structure Out.Post {α} (P : α → Prop) (x : Out α) : Prop where
  safe : ∀ {p f : Prop}, x.Safe p f
  of_ok : ∀ {a}, x = .ok a → P a

theorem Out.Post.ok {α} {P : α → Prop} {a : α} (h : P a) : (Out.ok a).Post P :=
  ⟨Out.Safe.ok a, fun e => by cases e; exact h⟩

theorem Out.Post.err {α} {P : α → Prop} {e : Err} (h : e ≠ .fuel) : (Out.err e : Out α).Post P :=
  ⟨Out.Safe.err h, nofun⟩

theorem Out.Post.bind {α β} {P : α → Prop} {Q : β → Prop} {x : Out α} {g : α → Out β} (hx : x.Post P)
    (hg : ∀ a, x = .ok a → (g a).Post Q) : (x.bind g).Post Q := by
  refine ⟨hx.safe.bind fun a h => (hg a h).safe, fun h => ?_⟩
  obtain ⟨a, ha, hb⟩ := Out.bind_eq_ok.mp h
  exact (hg a ha).of_ok hb

theorem checkedSub_ok {a b v : Nat} (h : checkedSub a b = .ok v) : v = a - b ∧ b ≤ a := by
  unfold checkedSub at h; split at h
  · cases h
  · cases h; exact ⟨rfl, by omega⟩

theorem checkedSub_of_le {a b : Nat} (h : b ≤ a) : checkedSub a b = .ok (a - b) := by
  unfold checkedSub; rw [if_neg (by omega)]

theorem checkedAdd32_ok {a b v : Nat} (h : checkedAdd32 a b = .ok v) : v = a + b ∧ a + b < 4294967296 := by
  unfold checkedAdd32 at h; split at h
  · cases h
  · cases h; exact ⟨rfl, by omega⟩

theorem checkedAdd32_of_lt {a b : Nat} (h : a + b < 4294967296) : checkedAdd32 a b = .ok (a + b) := by
  unfold checkedAdd32; rw [if_neg (by omega)]

theorem checkedAdd32_safe {f : Prop} (a b : Nat) : (checkedAdd32 a b).Safe (a + b < 4294967296) f := by
  unfold checkedAdd32
  split
  · exact ⟨fun h => by omega, fun _ => nofun⟩
  · exact Out.Safe.ok _

theorem be16_nat (a b : Nat) (ha : a < 256) (hb : b < 256) :
    let n := a * 256 + b
    n / 256 % 256 = a ∧ n % 256 = b := by
  intro n; omega

theorem be24_nat (b c d : Nat) (hb : b < 256) (hc : c < 256) (hd : d < 256) :
    let n := (b * 256 + c) * 256 + d
    n / 65536 % 256 = b ∧ n / 256 % 256 = c ∧ n % 256 = d := by
  intro n; omega

theorem be32_nat (a b c d : Nat) (ha : a < 256) (hb : b < 256) (hc : c < 256) (hd : d < 256) :
    let n := ((a * 256 + b) * 256 + c) * 256 + d
    n / 16777216 % 256 = a ∧ n / 65536 % 256 = b ∧ n / 256 % 256 = c ∧ n % 256 = d := by
  intro n; omega

theorem fromBe_be24 (n : Nat) (h : n < 16777216) : fromBe (be24 n) = n := by
  simp [fromBe, be24]; omega
theorem fromBe_be32 (n : Nat) (h : n < 4294967296) : fromBe (be32 n) = n := by
  simp [fromBe, be32]; omega

theorem be32_fromBe (a b c d : UInt8) : be32 (fromBe [a,b,c,d]) = [a,b,c,d] := by
  have ⟨h1, h2, h3, h4⟩ := be32_nat a.toNat b.toNat c.toNat d.toNat a.toNat_lt b.toNat_lt c.toNat_lt d.toNat_lt
  simp only [fromBe, be32, List.foldl, Nat.zero_mul, Nat.zero_add]
  simp only [h1, h2, h3, h4]
  simp

theorem be24_fromBe (b c d : UInt8) : be24 (fromBe [b,c,d]) = [b,c,d] := by
  have ⟨h2, h3, h4⟩ := be24_nat b.toNat c.toNat d.toNat b.toNat_lt c.toNat_lt d.toNat_lt
  simp only [fromBe, be24, List.foldl, Nat.zero_mul, Nat.zero_add]
  simp only [h2, h3, h4]
  simp

theorem fromBe_lt (b : Bytes) : fromBe b < 256 ^ b.length := by
  have key : ∀ (b : Bytes) (acc : Nat), b.foldl (fun acc x => acc * 256 + x.toNat) acc < (acc + 1) * 256 ^ b.length := by
    intro b
    induction b with
    | nil => intro acc; simp
    | cons x b ih =>
      intro acc
      have hx := x.toNat_lt
      calc _ < (acc * 256 + x.toNat + 1) * 256 ^ b.length := ih _
        _ ≤ ((acc + 1) * 256) * 256 ^ b.length := Nat.mul_le_mul_right _ (by omega)
        _ = _ := by rw [List.length_cons, Nat.pow_succ, Nat.mul_assoc, Nat.mul_comm 256]
  simpa [fromBe] using key b 0

theorem fromBe3_lt (b c d : UInt8) : fromBe [b,c,d] < 16777216 := by simpa using fromBe_lt [b,c,d]
theorem fromBe4_lt (a b c d : UInt8) : fromBe [a,b,c,d] < 4294967296 := by simpa using fromBe_lt [a,b,c,d]

theorem fromBe_append4 (a b c d : UInt8) (r : Bytes) :
    fromBe ([a,b,c,d] ++ r) = r.foldl (fun acc x => acc * 256 + x.toNat) (fromBe [a,b,c,d]) := by
  simp [fromBe]

theorem fromBe8 (a b c d e f g h : UInt8) :
    fromBe [a,b,c,d,e,f,g,h] = fromBe [a,b,c,d] * 4294967296 + fromBe [e,f,g,h] := by
  simp only [fromBe, List.foldl]; omega

theorem be64_fromBe (a b c d e f g h : UInt8) : be64 (fromBe [a,b,c,d,e,f,g,h]) = [a,b,c,d,e,f,g,h] := by
  rw [fromBe8]
  have h2 := fromBe4_lt e f g h
  unfold be64
  have e1 : (fromBe [a,b,c,d] * 4294967296 + fromBe [e,f,g,h]) / 4294967296 = fromBe [a,b,c,d] := by omega
  have e2 : (fromBe [a,b,c,d] * 4294967296 + fromBe [e,f,g,h]) % 4294967296 = fromBe [e,f,g,h] := by omega
  rw [e1, e2, be32_fromBe, be32_fromBe]; rfl

theorem fromBe_be64 (n : Nat) (h : n < 18446744073709551616) : fromBe (be64 n) = n := by
  have h1 : n / 4294967296 < 4294967296 := by omega
  have h2 : n % 4294967296 < 4294967296 := by omega
  have e1 := fromBe_be32 _ h1; have e2 := fromBe_be32 _ h2
  unfold be64 be32 at *
  simp only [List.cons_append, List.nil_append]
  rw [fromBe8]
  simp only [e1, e2]; omega

@[simp] theorem be24_length (n : Nat) : (be24 n).length = 3 := rfl
@[simp] theorem be32_length (n : Nat) : (be32 n).length = 4 := rfl
@[simp] theorem be64_length (n : Nat) : (be64 n).length = 8 := rfl

theorem list_len8 {bs : Bytes} (h : bs.length = 8) : ∃ a b c d e f g i, bs = [a,b,c,d,e,f,g,i] := by
  match bs, h with
  | [a,b,c,d,e,f,g,i], _ => exact ⟨a,b,c,d,e,f,g,i,rfl⟩

/-- four octets are the 32-bit number they spell, and conversely (`u32::from_be_bytes` / `to_be_bytes`) -/
theorem be32_fromBe_len {b : Bytes} (h : b.length = 4) : be32 (fromBe b) = b ∧ fromBe b < 4294967296 := by
  match b, h with
  | [a0, a1, a2, a3], _ => exact ⟨be32_fromBe a0 a1 a2 a3, fromBe4_lt a0 a1 a2 a3⟩

theorem be24_fromBe_len {b : Bytes} (h : b.length = 3) : be24 (fromBe b) = b ∧ fromBe b < 16777216 := by
  match b, h with
  | [x, y, z], _ => exact ⟨be24_fromBe x y z, fromBe3_lt x y z⟩

theorem be64_fromBe_len {b : Bytes} (h : b.length = 8) : be64 (fromBe b) = b ∧ fromBe b < 18446744073709551616 := by
  refine ⟨?_, by simpa [h] using fromBe_lt b⟩
  obtain ⟨a0, a1, a2, a3, a4, a5, a6, a7, rfl⟩ := list_len8 h
  exact be64_fromBe ..

/- the form in which `simp` meets `(fromBe b).toUInt32.toNat` -/
theorem fromBe_mod32 {b : Bytes} (h : b.length = 4) : fromBe b % 4294967296 = fromBe b :=
  Nat.mod_eq_of_lt (be32_fromBe_len h).2
theorem fromBe_mod64 {b : Bytes} (h : b.length = 8) : fromBe b % 18446744073709551616 = fromBe b :=
  Nat.mod_eq_of_lt (be64_fromBe_len h).2

theorem u32_rt (x : UInt32) : (fromBe (be32 x.toNat)).toUInt32 = x := by
  rw [fromBe_be32 _ x.toNat_lt]; simp
theorem u64_rt (x : UInt64) : (fromBe (be64 x.toNat)).toUInt64 = x := by
  rw [fromBe_be64 _ x.toNat_lt]; simp

theorem take_append_drop_drop {α} (l : List α) (k n m : Nat) (h : k + n = m) : (l.drop k).take n ++ l.drop m = l.drop k := by
  subst h
  rw [← List.drop_drop, List.take_append_drop]

theorem getD_cons_drop {α} (l : List α) {k : Nat} (d : α) (h : k < l.length) : l.getD k d :: l.drop (k + 1) = l.drop k := by
  rw [List.drop_eq_getElem_cons h, List.getD_eq_getElem?_getD, List.getElem?_eq_getElem h, Option.getD_some]

theorem pad_lt (n : Nat) : pad n < 4 := by unfold pad; omega

/-! ## cursor

`vlen` is the number of unread octets, negative once a seek has run past the end; `isIn` and `rem` are its sign and
its positive part. A read that succeeds either asks for nothing or takes its octets off an in-range cursor
(`Cur.read_ok`); everything the decoders need about reads follows from that. -/

def Cur.isIn : Cur → Prop
  | .inRange _ => True
  | .past _ => False

def Cur.vlen : Cur → Int
  | .inRange r => r.length
  | .past o => -((o : Int) + 1)

def Cur.rem : Cur → Nat
  | .inRange r => r.length
  | .past _ => 0

theorem Cur.isIn_iff (c : Cur) : c.isIn ↔ 0 ≤ c.vlen := by
  cases c <;> simp [Cur.isIn, Cur.vlen]

theorem Cur.rem_eq (c : Cur) : (c.rem : Int) = max c.vlen 0 := by
  cases c <;> simp [Cur.rem, Cur.vlen] <;> omega

theorem Cur.eq_inRange {c : Cur} (h : c.isIn) : ∃ r, c = .inRange r := by
  cases c with
  | inRange r => exact ⟨r, rfl⟩
  | past o => exact h.elim

theorem Cur.vlen_zero {c : Cur} (h : c.vlen = 0) : c = .inRange [] := by
  cases c with
  | inRange r => simp [Cur.vlen] at h; rw [h]
  | past o => simp [Cur.vlen] at h; omega

theorem Cur.read_ok {c c' : Cur} {n : Nat} {b : Bytes} (h : c.read n = .ok (b, c')) :
    (n = 0 ∧ b = [] ∧ c' = c) ∨ ∃ r, c = .inRange (b ++ r) ∧ c' = .inRange r ∧ b.length = n := by
  unfold Cur.read at h
  split at h
  · cases h; exact .inl ⟨‹_›, rfl, rfl⟩
  · cases c with
    | past o => cases h
    | inRange r =>
      simp only at h
      split at h
      · cases h; exact .inr ⟨r.drop n, by simp, rfl, by simp; omega⟩
      · cases h

theorem Cur.read_append {b : Bytes} {n : Nat} (r : Bytes) (h : b.length = n) :
    (Cur.inRange (b ++ r)).read n = .ok (b, .inRange r) := by
  subst h
  unfold Cur.read
  cases b with
  | nil => rfl
  | cons x b => simp

theorem Cur.read_read {c c1 c2 : Cur} {m n : Nat} {x y : Bytes} (h1 : c.read m = .ok (x, c1))
    (h2 : c1.read n = .ok (y, c2)) : c.read (m + n) = .ok (x ++ y, c2) := by
  rcases Cur.read_ok h1 with ⟨rfl, rfl, rfl⟩ | ⟨r, rfl, rfl, rfl⟩
  · simpa using h2
  · rcases Cur.read_ok h2 with ⟨rfl, rfl, rfl⟩ | ⟨r', hr, rfl, rfl⟩
    · simpa using h1
    · cases hr
      rw [← List.append_assoc]
      exact Cur.read_append _ (List.length_append ..)

theorem Cur.read_len {c c' : Cur} {n : Nat} {b : Bytes} (h : c.read n = .ok (b, c')) : b.length = n := by
  rcases Cur.read_ok h with ⟨rfl, rfl, _⟩ | ⟨_, _, _, h⟩
  · rfl
  · exact h

theorem Cur.read_vlen {c c' : Cur} {n : Nat} {b : Bytes} (h : c.read n = .ok (b, c')) :
    c'.vlen = c.vlen - n := by
  rcases Cur.read_ok h with ⟨rfl, rfl, rfl⟩ | ⟨r, rfl, rfl, rfl⟩
  · simp
  · simp [Cur.vlen]; omega

theorem Cur.read_isIn {c c' : Cur} {n : Nat} {b : Bytes} (h : c.read n = .ok (b, c')) : c'.isIn ↔ c.isIn := by
  rcases Cur.read_ok h with ⟨rfl, rfl, rfl⟩ | ⟨r, rfl, rfl, rfl⟩ <;> exact Iff.rfl

theorem Cur.read_inRange {c : Cur} {n : Nat} {b r' : Bytes} (h : c.read n = .ok (b, .inRange r')) :
    c = .inRange (b ++ r') := by
  rcases Cur.read_ok h with ⟨rfl, rfl, rfl⟩ | ⟨r, rfl, hr, rfl⟩
  · rfl
  · cases hr; rfl

theorem Cur.read_rem {c c' : Cur} {n : Nat} {b : Bytes} (h : c.read n = .ok (b, c')) : c'.rem + n = c.rem := by
  rcases Cur.read_ok h with ⟨rfl, rfl, rfl⟩ | ⟨r, rfl, rfl, rfl⟩
  · rfl
  · simp [Cur.rem]; omega

theorem Cur.read_rem_le {c c' : Cur} {n : Nat} {b : Bytes} (h : c.read n = .ok (b, c')) : c'.rem + n ≤ c.rem ∨ n = 0 ∧ c' = c :=
  .inl (Nat.le_of_eq (Cur.read_rem h))

theorem Cur.read_safe {p f : Prop} (c : Cur) (n : Nat) : (c.read n).Safe p f := by
  unfold Cur.read
  split
  · exact Out.Safe.ok _
  · cases c with
    | inRange r => simp only; split <;> first | exact Out.Safe.ok _ | exact Out.Safe.err nofun
    | past o => exact Out.Safe.err nofun

theorem Cur.read_post (c : Cur) (n : Nat) : (c.read n).Post fun _ => True := ⟨Cur.read_safe c n, fun _ => trivial⟩

theorem Cur.skip_vlen (c : Cur) (k : Nat) : (c.skip k).vlen = c.vlen - k := by
  unfold Cur.skip
  split
  · simp_all
  · cases c with
    | inRange r => simp only; split <;> simp [Cur.vlen] <;> omega
    | past o => simp [Cur.vlen]; omega

theorem Cur.skip_isIn {c : Cur} {k : Nat} (h : (c.skip k).isIn) : c.isIn := by
  rw [Cur.isIn_iff, Cur.skip_vlen] at h
  rw [Cur.isIn_iff]; omega

theorem Cur.skip_rem (c : Cur) (k : Nat) : (c.skip k).rem ≤ c.rem := by
  have h1 := Cur.rem_eq (c.skip k); have h2 := Cur.rem_eq c
  rw [Cur.skip_vlen] at h1; omega

theorem Cur.skip_inRange {c : Cur} {k : Nat} {r' : Bytes} (h : c.skip k = .inRange r') :
    ∃ r, c = .inRange r ∧ k ≤ r.length ∧ r' = r.drop k := by
  obtain ⟨r, rfl⟩ := Cur.eq_inRange (Cur.skip_isIn (by rw [h]; trivial))
  have hv := Cur.skip_vlen (.inRange r) k
  rw [h] at hv
  simp only [Cur.vlen] at hv
  refine ⟨r, rfl, by omega, ?_⟩
  unfold Cur.skip at h
  split at h
  · subst k; cases h; rfl
  · simp only [if_pos (show k ≤ r.length by omega)] at h; cases h; rfl

theorem Cur.skip_append {b : Bytes} {k : Nat} (r : Bytes) (h : b.length = k) :
    (Cur.inRange (b ++ r)).skip k = .inRange r := by
  subst h
  unfold Cur.skip
  cases b with
  | nil => rfl
  | cons x b => simp

end Dia
