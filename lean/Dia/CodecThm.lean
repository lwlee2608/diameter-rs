import Dia.StreamThm
import Dia.Top
/-! `Codec::decode` on one frame. Its equations by the outcome of the two reads come first; on a well-behaved script
(`noEmpty`) those outcomes are determined by the octets delivered (`readExact_append`, `readExact_short`). Then what it
does with any script at all (`decode_hostile`), and a concrete acceptable frame for the non-vacuity examples. -/
namespace Dia

def declaredLen (f : Bytes) : Nat := fromBe ((f.take 4).drop 1)

theorem Msg.enc_declaredLen (m : Msg) (h24 : m.length < 16777216) : declaredLen m.enc.bytes = m.length := by
  rw [Msg.enc_eq h24]
  exact fromBe_be24 m.length h24

/-- a frame the stream reader and the decoder accept -/
structure Accepts (cfg : Cfg) (dict : Lookup) (f : Bytes) (m : Msg) : Prop where
  dec : decMsg cfg dict f = .ok m
  len : declaredLen f = f.length
  lo : 20 ≤ f.length
  hi : f.length ≤ 1048576

/-- a frame the stream reader takes as one frame, whatever the message decoder then says about its content -/
structure Framed (f : Bytes) : Prop where
  len : declaredLen f = f.length
  lo : 20 ≤ f.length
  hi : f.length ≤ 1048576

/-- what `Codec::decode` makes of the message decoder's verdict -/
def COut.ofDec : Out Msg → COut
  | .ok m => .ok m
  | .err _ => .err .decode
  | .panic => .panic

theorem COut.ofDec_eq_ok {d : Out Msg} {m : Msg} : COut.ofDec d = .ok m ↔ d = .ok m := by
  cases d <;> simp [COut.ofDec]

theorem Accepts.framed {cfg : Cfg} {dict : Lookup} {f : Bytes} {m : Msg} (h : Accepts cfg dict f m) : Framed f :=
  ⟨h.len, h.lo, h.hi⟩

section
variable {cfg : Cfg} {dict : Lookup} {evs evs1 : List REv} {p got : Bytes}

theorem Codec.decode_prefix_eof (h : readExact 4 evs = (.eof got, evs1)) :
    Codec.decode cfg dict evs = ⟨.err .eof, evs1, got.length⟩ := by
  simp only [Codec.decode, h]

theorem Codec.decode_prefix_ioerr (h : readExact 4 evs = (.ioerr got, evs1)) :
    Codec.decode cfg dict evs = ⟨.err .io, evs1, got.length⟩ := by
  simp only [Codec.decode, h]

theorem Codec.decode_tooLarge (h : readExact 4 evs = (.ok p, evs1)) (hL : fromBe (p.drop 1) > 1048576) :
    Codec.decode cfg dict evs = ⟨.err .tooLarge, evs1, 4⟩ := by
  simp only [Codec.decode, h]
  rw [if_pos hL]

theorem Codec.decode_tooShort (h : readExact 4 evs = (.ok p, evs1)) (hL : fromBe (p.drop 1) < 20) :
    Codec.decode cfg dict evs = ⟨.err .tooShort, evs1, 4⟩ := by
  simp only [Codec.decode, h]
  rw [if_neg (by omega), if_pos hL]

/-- an admissible announcement: the rest of the frame is read and handed to the message decoder (the model's
`L < 4` branch, the slice `&mut buffer[4..]` that would panic, lies behind the `L < 20` check) -/
theorem Codec.decode_body (h : readExact 4 evs = (.ok p, evs1)) (hlo : 20 ≤ fromBe (p.drop 1))
    (hhi : fromBe (p.drop 1) ≤ 1048576) :
    Codec.decode cfg dict evs =
      match readExact (fromBe (p.drop 1) - 4) evs1 with
      | (.ok body, evs2) => ⟨COut.ofDec (decMsg cfg dict (p ++ body)), evs2, 4 + body.length⟩
      | (.eof got, evs2) => ⟨.err .eof, evs2, 4 + got.length⟩
      | (.ioerr got, evs2) => ⟨.err .io, evs2, 4 + got.length⟩ := by
  simp only [Codec.decode, h]
  rw [if_neg (by omega), if_neg (by omega), if_neg (by omega)]
  split <;> simp only [*]
  rfl

end

/-- one well-framed frame, accepted or not: however the octets are segmented, one call hands exactly the frame to the
message decoder, consumes exactly the frame, and leaves a script that delivers exactly the rest -/
theorem Codec.decode_framed (cfg : Cfg) (dict : Lookup) (evs : List REv) (f more : Bytes)
    (hne : noEmpty evs) (hflat : flat evs = f ++ more) (ha : Framed f) :
    ∃ evs', Codec.decode cfg dict evs = ⟨COut.ofDec (decMsg cfg dict f), evs', f.length⟩ ∧ flat evs' = more ∧
      noEmpty evs' := by
  obtain ⟨hlen, hlo, hhi⟩ := ha
  obtain ⟨evs1, r1, f1, n1⟩ := readExact_append evs (f.take 4) (f.drop 4 ++ more) hne
    (by rw [hflat, ← List.append_assoc, List.take_append_drop])
  obtain ⟨evs2, r2, f2, n2⟩ := readExact_append evs1 (f.drop 4) more n1 f1
  rw [List.length_take_of_le (by omega)] at r1
  rw [List.length_drop] at r2
  refine ⟨evs2, ?_, f2, n2⟩
  unfold declaredLen at hlen
  rw [Codec.decode_body r1 (by omega) (by omega), hlen, r2]
  simp
  omega

/-- C06, one frame (`C06_read_frame`): the accepted case of `decode_framed` -/
theorem Codec.decode_frame (cfg : Cfg) (dict : Lookup) (evs : List REv) (f more : Bytes) (m : Msg)
    (hne : noEmpty evs) (hflat : flat evs = f ++ more) (ha : Accepts cfg dict f m) :
    ∃ evs', Codec.decode cfg dict evs = ⟨.ok m, evs', f.length⟩ ∧ flat evs' = more ∧ noEmpty evs' := by
  have := Codec.decode_framed cfg dict evs f more hne hflat ha.framed
  rwa [ha.dec] at this

/-- induction along a stream of acceptable frames: what holds of every well-behaved script that delivers `more` holds of
every well-behaved script that delivers `frames.flatten ++ more`, if it passes from the script a call of the stream reader
leaves to the script the call was made on. The loops over a stream are proved by it; only their base cases see `noEmpty`
and `flat`. -/
@[elab_as_elim]
theorem Accepts.stream_induct {cfg : Cfg} {dict : Lookup} {more : Bytes} {P : List Bytes → List Msg → List REv → Prop}
    (nil : ∀ evs, noEmpty evs → flat evs = more → P [] [] evs)
    (cons : ∀ f fs m ms evs evs', Codec.decode cfg dict evs = ⟨.ok m, evs', f.length⟩ → P fs ms evs' →
      P (f :: fs) (m :: ms) evs)
    (frames : List Bytes) (msgs : List Msg) (evs : List REv) (hl : frames.length = msgs.length)
    (hacc : ∀ i (h1 : i < frames.length) (h2 : i < msgs.length), Accepts cfg dict frames[i] msgs[i])
    (hne : noEmpty evs) (hflat : flat evs = frames.flatten ++ more) : P frames msgs evs := by
  induction frames generalizing msgs evs with
  | nil =>
    obtain rfl := List.eq_nil_of_length_eq_zero hl.symm
    exact nil evs hne hflat
  | cons f fs ih =>
    obtain ⟨m, ms, rfl⟩ := List.exists_cons_of_length_eq_add_one hl.symm
    obtain ⟨evs1, hd, hf1, hne1⟩ := Codec.decode_frame cfg dict evs f (fs.flatten ++ more) m hne
      (by simpa using hflat) (hacc 0 (Nat.zero_lt_succ _) (Nat.zero_lt_succ _))
    exact cons f fs m ms evs evs1 hd (ih ms evs1 (by simpa using hl)
      (fun i h1 h2 => hacc (i + 1) (Nat.succ_lt_succ h1) (Nat.succ_lt_succ h2)) hne1 hf1)

/-- a stream that ends inside a well-framed frame, whatever the message decoder would have said about it -/
theorem Codec.decode_cut_framed (cfg : Cfg) (dict : Lookup) (evs : List REv) (f : Bytes) (q : Nat)
    (hne : noEmpty evs) (hf : Framed f) (hq : q < f.length) (hflat : flat evs = f.take q) :
    (Codec.decode cfg dict evs).out = .err .eof := by
  obtain ⟨hlen, hlo, hhi⟩ := hf
  by_cases h4 : q < 4
  · obtain ⟨got, evs1, hr⟩ := readExact_short 4 evs hne (by rw [hflat, List.length_take]; omega)
    rw [Codec.decode_prefix_eof hr]
  · obtain ⟨evs1, r1, f1, n1⟩ := readExact_append evs (f.take 4) ((f.drop 4).take (q - 4)) hne
      (by rw [hflat, ← List.take_add]; congr 1; omega)
    rw [List.length_take_of_le (by omega)] at r1
    obtain ⟨got, evs2, r2⟩ := readExact_short (f.length - 4) evs1 n1
      (by rw [f1, List.length_take, List.length_drop]; omega)
    unfold declaredLen at hlen
    rw [Codec.decode_body r1 (by omega) (by omega), hlen, r2]

/-- a stream that ends inside a frame - anywhere: in the length prefix, the header, an AVP - makes the stream reader
report end of stream -/
theorem Codec.decode_cut (cfg : Cfg) (dict : Lookup) (evs : List REv) (f : Bytes) (m : Msg) (q : Nat)
    (hne : noEmpty evs) (ha : Accepts cfg dict f m) (hq : q < f.length) (hflat : flat evs = f.take q) :
    (Codec.decode cfg dict evs).out = .err .eof :=
  Codec.decode_cut_framed cfg dict evs f q hne ha.framed hq hflat

theorem Codec.decode_end (cfg : Cfg) (dict : Lookup) (evs : List REv) (hne : noEmpty evs) (hflat : flat evs = []) :
    (Codec.decode cfg dict evs).out = .err .eof := by
  obtain ⟨got, evs1, hr⟩ := readExact_short 4 evs hne (by simp [hflat])
  rw [Codec.decode_prefix_eof hr]

/-- C07 (`C07_hostile`): no panic, hostile announcements refused on the 4-octet prefix, never more than max(announced, 4) octets taken -/
theorem Codec.decode_hostile (cfg : Cfg) (dict : Lookup) (evs : List REv) :
    (Codec.decode cfg dict evs).out ≠ .panic ∧
    (∀ p evs1, readExact 4 evs = (.ok p, evs1) →
      (fromBe (p.drop 1) > 1048576 → (Codec.decode cfg dict evs).out = .err .tooLarge ∧ (Codec.decode cfg dict evs).consumed = 4) ∧
      (fromBe (p.drop 1) < 20 → (Codec.decode cfg dict evs).out = .err .tooShort ∧ (Codec.decode cfg dict evs).consumed = 4) ∧
      (Codec.decode cfg dict evs).consumed ≤ max (fromBe (p.drop 1)) 4) ∧
    (∀ o evs1, readExact 4 evs = (o, evs1) → (∀ p, o ≠ .ok p) →
      (∃ e, (Codec.decode cfg dict evs).out = .err e) ∧ (Codec.decode cfg dict evs).consumed ≤ 4) := by
  -- once the prefix is read: no panic, and the bound on what is consumed
  have hbody : ∀ p evs1, readExact 4 evs = (.ok p, evs1) →
      (Codec.decode cfg dict evs).out ≠ .panic ∧ (Codec.decode cfg dict evs).consumed ≤ max (fromBe (p.drop 1)) 4 := by
    intro p evs1 hr
    by_cases h1 : fromBe (p.drop 1) > 1048576
    · rw [Codec.decode_tooLarge hr h1]
      exact ⟨nofun, Nat.le_max_right ..⟩
    by_cases h2 : fromBe (p.drop 1) < 20
    · rw [Codec.decode_tooShort hr h2]
      exact ⟨nofun, Nat.le_max_right ..⟩
    rw [Codec.decode_body hr (by omega) (by omega)]
    have ht := readExact_taken (fromBe (p.drop 1) - 4) evs1
    generalize readExact (fromBe (p.drop 1) - 4) evs1 = r at ht ⊢
    obtain ⟨body | got | got, evs2⟩ := r <;> simp only [RO.taken] at ht ⊢
    · refine ⟨?_, by omega⟩
      cases hd : decMsg cfg dict (p ++ body) with
      | panic => exact absurd hd (decMsg_ne_panic _ _ _)
      | _ => nofun
    · exact ⟨nofun, by omega⟩
    · exact ⟨nofun, by omega⟩
  have ht := readExact_taken 4 evs
  refine ⟨?_, fun p evs1 hr => ⟨fun h => ?_, fun h => ?_, (hbody p evs1 hr).2⟩, fun o evs1 hr hno => ?_⟩
  · rcases hr : readExact 4 evs with ⟨p | got | got, evs1⟩
    · exact (hbody p evs1 hr).1
    · rw [Codec.decode_prefix_eof hr]; nofun
    · rw [Codec.decode_prefix_ioerr hr]; nofun
  · rw [Codec.decode_tooLarge hr h]; exact ⟨rfl, rfl⟩
  · rw [Codec.decode_tooShort hr h]; exact ⟨rfl, rfl⟩
  · rw [hr] at ht
    cases o with
    | ok p => exact absurd rfl (hno p)
    | eof got => rw [Codec.decode_prefix_eof hr]; exact ⟨⟨_, rfl⟩, ht⟩
    | ioerr got => rw [Codec.decode_prefix_ioerr hr]; exact ⟨⟨_, rfl⟩, ht⟩

/-! ### a concrete acceptable frame
shared by the non-vacuity examples of the stream and server properties -/

def exCfg : Cfg := ⟨fun _ _ => false, 32, {}⟩
def exDictNone : Lookup := fun _ _ => .unknown
/-- a header-only Credit-Control request: 20 octets -/
def exFrame : Bytes := [1, 0, 0, 20, 0x80, 0, 1, 16, 0, 0, 0, 4, 0, 0, 0, 1, 0, 0, 0, 2]
def exFrameMsg : Msg := ⟨1, 20, 0x80, 272, 4, 1, 2, []⟩

theorem exFrame_accepts : Accepts exCfg exDictNone exFrame exFrameMsg := by
  refine ⟨?_, by decide, by decide, by decide⟩
  simp [decMsg, exFrame, exCfg, Cur.read, fromBe, Tables.cmdKnown, Tables.appKnown, decGroup, exFrameMsg, Out.bind]

theorem exFrameMsg_enc : exFrameMsg.enc = ⟨exFrame, none⟩ := rfl

/-- the hypothesis of the theorems about a list of frames, for a single frame -/
theorem accepts_one {cfg : Cfg} {dict : Lookup} {f : Bytes} {m : Msg} (h : Accepts cfg dict f m) :
    ∀ i (_ : i < [f].length) (_ : i < [m].length), Accepts cfg dict [f][i] [m][i]
  | 0, _, _ => h

end Dia
