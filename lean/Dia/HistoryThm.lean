import Dia.History
/-! The construction API (`Avp::new`, `from_name`, `add`, `Grouped::add` ..) preserves `Good`: what it builds is well formed
and consistent. -/
namespace Dia

theorem Value.good_grouped (ms : List Avp) : (Value.grouped ms).Good ↔ ∀ a ∈ ms, a.Good := by
  simp only [Value.Good, Value.WF, Value.Cons, WFList_iff, ConsList_iff, Avp.Good, forall_and]

theorem Value.good_snoc {ms : List Avp} {a : Avp} (hg : (Value.grouped ms).Good) (ha : a.Good) :
    (Value.grouped (ms ++ [a])).Good := by
  rw [Value.good_grouped] at hg ⊢
  intro x hx
  rcases List.mem_append.mp hx with h | h
  · exact hg x h
  · rw [List.mem_singleton.mp h]; exact ha

/-- `Avp::new` computes length and padding from the value: the result is consistent; it is well formed when the
length fits the 24-bit field -/
theorem Avp.new_good (code : UInt32) (vendor : Option UInt32) (flags : UInt8) (v : Value) (hv : v.Good)
    (h24 : hdrLen vendor + v.len < 16777216) : (Avp.new code vendor flags v).Good := by
  unfold Avp.new Avp.Good
  simp only [Avp.WF, Avp.Cons]
  exact ⟨⟨h24, hv.1⟩, trivial, trivial, hv.2⟩

theorem Avp.good_value {a : Avp} (h : a.Good) : a.value.Good := by
  cases a with
  | mk c vd m p l pd v => exact ⟨h.1.2, h.2.2.2⟩

theorem Avp.fromName_good {D : Dict} {n : String} {v : Value} {a : Avp} (h : Avp.fromName D n v = some a) (hv : v.Good)
    (h24 : ∀ d, D.getByName n = some d → hdrLen d.vendor + v.len < 16777216) : a.Good := by
  obtain ⟨d, hd, rfl⟩ := Option.map_eq_some_iff.mp h
  exact Avp.new_good _ _ _ v hv (h24 d hd)

theorem Msg.new_good (cmd app : Nat) (flags : UInt8) (hbh e2e : UInt32) : (Msg.new cmd app flags hbh e2e).Good :=
  ⟨trivial, trivial, rfl⟩

theorem Msg.Good.mem {m : Msg} (hm : m.Good) {a : Avp} (ha : a ∈ m.avps) : a.Good :=
  ⟨(WFList_iff _).mp hm.wf a ha, (ConsList_iff _).mp hm.cons a ha⟩

theorem Msg.add_good {m : Msg} {a : Avp} (hm : m.Good) (ha : a.Good) : (m.add a).Good := by
  have hg := Value.good_snoc (ms := m.avps) ⟨hm.wf, hm.cons⟩ ha
  refine ⟨hg.1, hg.2, ?_⟩
  simp only [Msg.add, lenList_append, Avp.padded, hm.len]; omega

end Dia
