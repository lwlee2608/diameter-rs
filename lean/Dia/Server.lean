import Dia.Stream
/-! The per-connection loop of the server (`process_incoming_message`) as a function of scripts. -/
namespace Dia

inductive WEv | accept (k : Nat) | pending | fail
deriving Repr

inductive HRes | ok (ans : Msg) | err
/-- `write_all` over successive `poll_write` outcomes; an exhausted script accepts everything -/
def writeAll : Bytes → List WEv → Bool × Bytes × List WEv
  | [], w => (true, [], w)
  | bs, [] => (true, bs, [])
  | bs, .pending :: w => writeAll bs w
  | _, .fail :: w => (false, [], .fail :: w)
  | b :: bs, .accept k :: w =>
    if k = 0 then (false, [], .fail :: w)                       -- `Ok(0)` is WriteZero
    else if (b :: bs).length ≤ k then (true, b :: bs, w)
    else
      let (ok, wr, w') := writeAll ((b :: bs).drop k) w
      (ok, (b :: bs).take k ++ wr, w')
termination_by bs w => (w.length, bs.length)
decreasing_by all_goals simp_wf <;> omega

structure ServeLog where
  calls : List Msg       -- requests handed to the handler, in order
  written : Bytes        -- every octet put on the stream
  clean : Bool           -- ended with Ok (peer closed) rather than Err; not compared with the code

def ServeLog.cons (req : Msg) (bs : Bytes) (l : ServeLog) : ServeLog := ⟨req :: l.calls, bs ++ l.written, l.clean⟩

/-- one entry of `hs` per handler invocation -/
def serve (cfg : Cfg) (dict : Lookup) : List HRes → List REv → List WEv → ServeLog
  | hs, evs, w =>
    let r := Codec.decode cfg dict evs
    match r.out with
    | .ok req =>
      match hs with
      | [] => ⟨[req], [], false⟩                       -- script exhausted (the harness never lets this happen)
      | .err :: _ => ⟨[req], [], false⟩                 -- `handler(req).await?`
      | .ok ans :: hs' =>
        let e := ans.enc
        match e.err with
        | some _ => ⟨[req], [], false⟩                  -- `Codec::encode` fails before anything is written
        | none =>
          let (ok, wr, w') := writeAll e.bytes w
          if ok then (serve cfg dict hs' r.rest w').cons req wr
          else ⟨[req], wr, false⟩
    | .err .eof => ⟨[], [], true⟩
    | .err _ => ⟨[], [], false⟩
    | .panic => ⟨[], [], false⟩
termination_by hs => hs.length

end Dia
