import Dia.Leaf
/-! The recursive AVP decoder `decAvp` / `decGroup`: one step of each characterised once (`decAvp_ok`, `decGroup_ok`),
`dec_induct` (induction over a successful decode, with the fuel gone) and its applications, and totality (`decAvp_safe`). -/
namespace Dia

/-- a member list: ended when the offset has reached the declared length, else one AVP and the rest (with one unit of fuel
less: a decode that succeeds had some) -/
theorem decGroup_ok {cfg : Cfg} {dict : Lookup} {fuel depth len off : Nat} {c c' : Cur} {ms : List Avp}
    (h : decGroup cfg dict fuel depth len off c = .ok (ms, c')) :
    (off = len ∧ ms = [] ∧ c' = c) ∨ off < len ∧ ∃ a c1 as, decAvp cfg dict (fuel - 1) depth c = .ok (a, c1) ∧
      off + a.len + a.padding < 4294967296 ∧
      decGroup cfg dict (fuel - 1) depth len (off + a.len + a.padding) c1 = .ok (as, c') ∧ ms = a :: as := by
  obtain _ | fuel := fuel
  · simp [decGroup] at h
  simp only [decGroup] at h
  split at h
  · simp only [Out.bind_eq_ok] at h
    obtain ⟨⟨a, c1⟩, ha, o1, ho1, o2, ho2, ⟨as, c2⟩, hg, h⟩ := h
    obtain ⟨rfl, _⟩ := checkedAdd32_ok ho1
    obtain ⟨rfl, hlt⟩ := checkedAdd32_ok ho2
    cases h
    exact .inr ⟨‹_›, a, c1, as, ha, hlt, hg, rfl⟩
  · split at h
    · cases h; exact .inl ⟨‹_›, rfl, rfl⟩
    · cases h

/-- one AVP: a header announcing `hdrLen + vl` octets, a value decoded from the `vl` octets behind it - a group one level
deeper when the dictionary says so, else a leaf -, then the padding is skipped -/
theorem decAvp_ok {cfg : Cfg} {dict : Lookup} {fuel depth : Nat} {c c' : Cur} {a : Avp}
    (h : decAvp cfg dict fuel depth c = .ok (a, c')) :
    ∃ hd c1 vl v c2, decHdr c = .ok (hd, c1) ∧ hd.len = hdrLen hd.vendor + vl ∧
      a = .mk hd.code hd.vendor hd.m hd.p hd.len (pad vl) v ∧ c' = c2.skip (pad vl) ∧
      ((∃ ms, dict hd.code hd.vendor = .grouped ∧ v = .grouped ms ∧ depth + 1 ≤ cfg.limit ∧
          decGroup cfg dict (fuel - 1) (depth+1) vl 0 c1 = .ok (ms, c2)) ∨
        decLeaf cfg (dict hd.code hd.vendor) vl c1 = .ok (v, c2)) := by
  obtain _ | fuel := fuel
  · simp [decAvp] at h
  simp only [decAvp, Out.bind_eq_ok] at h
  obtain ⟨⟨hd, c1⟩, hh, h⟩ := h
  dsimp only at h
  split at h
  · cases h
  · simp only [Out.bind_eq_ok] at h
    obtain ⟨vl, hvl, ⟨v, c2⟩, hv, h⟩ := h
    obtain ⟨rfl, hle⟩ := checkedSub_ok hvl
    cases h
    refine ⟨hd, c1, _, v, c2, hh, by omega, rfl, rfl, ?_⟩
    split at hv
    · split at hv
      · cases hv
      · simp only [Out.bind_eq_ok] at hv
        obtain ⟨⟨ms, c3⟩, hg, hv⟩ := hv
        cases hv
        exact .inl ⟨ms, ‹_›, rfl, by omega, hg⟩
    · cases hv
    · exact .inr hv

/-- Induction over a successful decode: it is enough to say what holds of a leaf, of a group given its members, of an AVP
given its value, of the end of a member list, and of one more member. -/
theorem dec_induct {cfg : Cfg} {dict : Lookup} {W : Nat → Ty → Nat → Cur → Value → Cur → Prop}
    {P : Nat → Cur → Avp → Cur → Prop} {Q : Nat → Nat → Nat → Cur → List Avp → Cur → Prop}
    (leaf : ∀ depth ty vl c v c', decLeaf cfg ty vl c = .ok (v, c') → W depth ty vl c v c')
    (group : ∀ depth vl c ms c', depth + 1 ≤ cfg.limit → Q (depth + 1) vl 0 c ms c' →
      W depth .grouped vl c (.grouped ms) c')
    (avp : ∀ depth c hd c1 vl v c2, decHdr c = .ok (hd, c1) → hd.len = hdrLen hd.vendor + vl →
      W depth (dict hd.code hd.vendor) vl c1 v c2 →
      P depth c (.mk hd.code hd.vendor hd.m hd.p hd.len (pad vl) v) (c2.skip (pad vl)))
    (nil : ∀ depth len c, Q depth len len c [] c)
    (cons : ∀ depth len off c a c1 as c2, off < len → off + a.len + a.padding < 4294967296 → P depth c a c1 →
      Q depth len (off + a.len + a.padding) c1 as c2 → Q depth len off c (a :: as) c2) :
    ∀ fuel, (∀ {depth c a c'}, decAvp cfg dict fuel depth c = .ok (a, c') → P depth c a c') ∧
      ∀ {depth len off c ms c'}, decGroup cfg dict fuel depth len off c = .ok (ms, c') → Q depth len off c ms c'
  | 0 => ⟨fun h => by simp [decAvp] at h, fun h => by simp [decGroup] at h⟩
  | fuel+1 => by
    obtain ⟨ihA, ihG⟩ := dec_induct leaf group avp nil cons fuel
    constructor
    · intro depth c a c' h
      obtain ⟨hd, c1, vl, v, c2, hh, hl, rfl, rfl, ⟨ms, hty, rfl, hlim, hg⟩ | hv⟩ := decAvp_ok h
      · exact avp _ _ _ _ _ _ _ hh hl (hty ▸ group _ _ _ _ _ hlim (ihG hg))
      · exact avp _ _ _ _ _ _ _ hh hl (leaf _ _ _ _ _ _ hv)
    · intro depth len off c ms c' h
      obtain ⟨rfl, rfl, rfl⟩ | ⟨hlt, a, c1, as, ha, h32, hg, rfl⟩ := decGroup_ok h
      · exact nil ..
      · exact cons _ _ _ _ _ _ _ _ hlt h32 (ihA ha) (ihG hg)

/-! ### every accepted decode -/

theorem dec_rem {cfg : Cfg} {dict : Lookup} {fuel : Nat} :
    (∀ {depth c a c'}, decAvp cfg dict fuel depth c = .ok (a, c') → c'.rem + 8 ≤ c.rem) ∧
    ∀ {depth len off c ms c'}, decGroup cfg dict fuel depth len off c = .ok (ms, c') → c'.rem ≤ c.rem := by
  refine dec_induct (W := fun _ _ _ c _ c' => c'.rem ≤ c.rem) ?_ (fun _ _ _ _ _ _ h => h) ?_
    (fun _ _ _ => Nat.le_refl _) (fun _ _ _ _ _ _ _ _ _ _ ha hg => by omega) fuel
  · intro _ ty vl c v c' h
    obtain ⟨_, _, _, _, b, hr, _⟩ := decLeaf_ok h
    have := Cur.read_rem hr
    omega
  · intro _ c hd c1 vl v c2 hh _ hw
    have := (decHdr_adv hh).2.2
    have := hdrLen_ge hd.vendor
    have := Cur.skip_rem c2 (pad vl)
    omega

theorem decGroup_rem (cfg : Cfg) (dict : Lookup) : ∀ (fuel depth len off : Nat) (c c' : Cur) (ms : List Avp),
    decGroup cfg dict fuel depth len off c = .ok (ms, c') → c'.rem ≤ c.rem :=
  fun _ _ _ _ _ _ _ => dec_rem.2

/-- a cursor from which an AVP was decoded was in range: the header is never empty -/
theorem decAvp_isIn (cfg : Cfg) (dict : Lookup) : ∀ (fuel depth : Nat) (c c' : Cur) (a : Avp),
    decAvp cfg dict fuel depth c = .ok (a, c') → c'.isIn → c.isIn := by
  intro fuel depth c c' a h _
  obtain ⟨hd, c1, _, _, _, hh, _⟩ := decAvp_ok h
  exact (decHdr_adv hh).1

theorem decAvp_bounds (cfg : Cfg) (dict : Lookup) (fuel depth : Nat) (c c' : Cur) (a : Avp)
    (h : decAvp cfg dict fuel depth c = .ok (a, c')) : a.len < 16777216 ∧ a.padding < 4 := by
  obtain ⟨hd, c1, vl, v, c2, hh, _, rfl, _⟩ := decAvp_ok h
  exact ⟨(decHdr_ok hh).1, pad_lt _⟩

theorem dec_typed {cfg : Cfg} {dict : Lookup} {fuel : Nat} :
    (∀ {depth c a c'}, decAvp cfg dict fuel depth c = .ok (a, c') → depth ≤ cfg.limit →
      a.Typed dict ∧ depth + a.depth ≤ cfg.limit) ∧
    ∀ {depth len off c ms c'}, decGroup cfg dict fuel depth len off c = .ok (ms, c') → depth ≤ cfg.limit →
      TypedList dict ms ∧ depth + depthList ms ≤ cfg.limit := by
  refine dec_induct
    (W := fun depth ty _ _ v _ => depth ≤ cfg.limit → tyOf v = ty ∧ v.Typed dict ∧ depth + v.depth ≤ cfg.limit)
    ?_ ?_ ?_ (fun _ _ _ _ => ⟨trivial, by simp only [depthList]; omega⟩) ?_ fuel
  · intro depth ty vl c v c' h hd
    obtain ⟨hty, hng, _⟩ := decLeaf_ok h
    exact ⟨hty, leaf_typed dict hng, by rw [leaf_depth hng]; exact hd⟩
  · intro depth vl c ms c' hlim hq _
    obtain ⟨t1, t2⟩ := hq hlim
    exact ⟨rfl, t1, by simp only [Value.depth]; omega⟩
  · intro depth c hd c1 vl v c2 _ _ hw hlim
    obtain ⟨hty, t1, t2⟩ := hw hlim
    exact ⟨⟨hty.symm, t1⟩, t2⟩
  · intro depth len off c a c1 as c2 _ _ ha hg hlim
    obtain ⟨a1, a2⟩ := ha hlim
    obtain ⟨g1, g2⟩ := hg hlim
    exact ⟨⟨a1, g1⟩, by simp only [depthList]; omega⟩

theorem decAvp_typed (cfg : Cfg) (dict : Lookup) : ∀ (fuel depth : Nat) (c c' : Cur) (a : Avp),
    decAvp cfg dict fuel depth c = .ok (a, c') → depth ≤ cfg.limit → a.Typed dict ∧ depth + a.depth ≤ cfg.limit :=
  fun _ _ _ _ _ => dec_typed.1

theorem dec_strict {cfg : Cfg} {dict : Lookup} (hs : ∀ t d, cfg.lenient t d = false) {fuel : Nat} :
    (∀ {depth c a c'}, decAvp cfg dict fuel depth c = .ok (a, c') → a.NoLie) ∧
    ∀ {depth len off c ms c'}, decGroup cfg dict fuel depth len off c = .ok (ms, c') → NoLieList ms := by
  refine dec_induct (W := fun _ _ vl _ v _ => (∀ n, fixedSize (tyOf v) = some n → vl = n) ∧ v.NoLie)
    ?_ (fun _ _ _ _ _ _ hq => ⟨nofun, hq⟩) ?_ (fun _ _ _ => trivial) (fun _ _ _ _ _ _ _ _ _ _ ha hg => ⟨ha, hg⟩) fuel
  · intro _ ty vl c v c' h
    obtain ⟨hty, hng, _⟩ := decLeaf_ok h
    exact ⟨fun n hn => decLeaf_strict_len hs (hty ▸ hn) h, leaf_nolie hng⟩
  · intro _ c hd c1 vl v c2 _ hl hw
    exact ⟨fun n hn => by rw [hl, hw.1 n hn], hw.2⟩

theorem decAvp_strict (cfg : Cfg) (dict : Lookup) (hs : ∀ t d, cfg.lenient t d = false) :
    ∀ (fuel depth : Nat) (c c' : Cur) (a : Avp), decAvp cfg dict fuel depth c = .ok (a, c') → a.NoLie :=
  fun _ _ _ _ _ => (dec_strict hs).1

/-! ### accepted without a fixed-size length lie -/

/-- a decode accepted without a fixed-size length lie has moved the cursor by exactly what the stored lengths say, also when it
has run past the end; and if the cursor is still in range, the octets it has passed are a wire form of what was returned -/
theorem dec_exact {cfg : Cfg} {dict : Lookup} {fuel : Nat} :
    (∀ {depth c a c'}, decAvp cfg dict fuel depth c = .ok (a, c') → a.NoLie → c'.vlen = c.vlen - a.padded ∧
      ∀ r', c' = .inRange r' → ∃ used, c = .inRange (used ++ r') ∧ a.Wire used) ∧
    ∀ {depth len off c ms c'}, decGroup cfg dict fuel depth len off c = .ok (ms, c') → NoLieList ms →
      off + lenList ms = len ∧ c'.vlen = c.vlen - lenList ms ∧
      ∀ r', c' = .inRange r' → ∃ used, c = .inRange (used ++ r') ∧ WireList ms used := by
  refine dec_induct
    (W := fun _ _ vl c v c' => v.NoLie → (∀ n, fixedSize (tyOf v) = some n → vl = n) → v.len = vl ∧ c'.vlen = c.vlen - vl ∧
      ∀ r', c' = .inRange r' → ∃ vb, c = .inRange (vb ++ r') ∧ v.Wire vb)
    ?_ ?_ ?_ (fun _ _ _ _ => ⟨rfl, by simp [lenList], fun r' h => ⟨[], h, wireList_nil⟩⟩) ?_ fuel
  · intro _ ty vl c v c' h _ hfix
    obtain ⟨_, hng, hwf, _, b, hr, he⟩ := decLeaf_ok h
    have hvl := decLeaf_len h hfix
    refine ⟨hvl, by rw [Cur.read_vlen hr, hvl], fun r' hr' => ?_⟩
    subst hr'
    exact ⟨b, Cur.read_inRange hr, (leaf_wire hng).mpr ⟨hwf, he⟩⟩
  · intro _ vl c ms c' _ hq hnl _
    obtain ⟨g1, g2, g3⟩ := hq hnl
    exact ⟨(Nat.zero_add _).symm.trans g1, by omega, g3⟩
  · intro _ c hd c1 vl v c2 hh hl hw hnl
    obtain ⟨hvl, hv, hw⟩ := hw hnl.2 fun n hn => by have := hnl.1 n hn; omega
    refine ⟨?_, fun r' hr' => ?_⟩
    · have := (decHdr_adv hh).2.1
      have := Cur.skip_vlen c2 (pad vl)
      simp only [Avp.padded, Avp.len, Avp.padding]
      omega
    · obtain ⟨r2, rfl, hpad, rfl⟩ := Cur.skip_inRange hr'
      obtain ⟨vb, rfl, hvw⟩ := hw r2 rfl
      obtain ⟨h24, hb, hr, hmask⟩ := decHdr_ok hh
      refine ⟨hb ++ (vb ++ r2.take (pad vl)), by rw [Cur.read_inRange hr]; simp, Avp.wire_iff.mpr
        ⟨h24, by omega, by rw [hvl], hb, vb, _, rfl, by rw [Cur.read_len hr, maskHdr_length], hmask, hvw, ?_⟩⟩
      rw [List.length_take]; omega
  · intro _ len off c a c1 as c2 _ _ ha hg hnl
    obtain ⟨a1, a2⟩ := ha hnl.1
    obtain ⟨g1, g2, g3⟩ := hg hnl.2
    simp only [lenList, Avp.padded] at *
    refine ⟨by omega, by omega, fun r' hr' => ?_⟩
    obtain ⟨u2, rfl, hw2⟩ := g3 r' hr'
    obtain ⟨u1, rfl, hw1⟩ := a2 _ rfl
    exact ⟨u1 ++ u2, by rw [List.append_assoc], wireList_cons.mpr ⟨u1, u2, rfl, hw1, hw2⟩⟩

theorem decAvp_vlen (cfg : Cfg) (dict : Lookup) : ∀ (fuel depth : Nat) (c c' : Cur) (a : Avp),
    decAvp cfg dict fuel depth c = .ok (a, c') → a.NoLie → c'.vlen = c.vlen - a.padded :=
  fun _ _ _ _ _ h hnl => (dec_exact.1 h hnl).1

theorem decAvp_inv (cfg : Cfg) (dict : Lookup) : ∀ (fuel depth : Nat) (c : Cur) (a : Avp) (r' : Bytes),
    decAvp cfg dict fuel depth c = .ok (a, .inRange r') → a.NoLie →
    ∃ used, c = .inRange (used ++ r') ∧ used.length = a.padded ∧ used.length = a.mask.length ∧
      a.enc = ⟨applyMask used a.mask, none⟩ ∧ a.Cons ∧ a.WF := by
  intro fuel depth c a r' h hnl
  obtain ⟨u, h1, hw⟩ := (dec_exact.1 h hnl).2 r' rfl
  exact ⟨u, h1, hw.len.trans (Avp.mask_len a hw.cons), hw.len, hw.enc, hw.cons, hw.wf⟩

/-! ### totality -/

/- One walk through the decoder for both: no panic site is reached (a member list needs its declared length below 2^24 for
that, which the header field guarantees), and the fuel is not exhausted when it is a quarter of the remaining octets: a
member of a list costs two units (its `decAvp` and the `decGroup` that goes on after it) and at least the 8 octets of its
header (`dec_rem`). The fuel is an artefact (Lean needs structural recursion); the code has none. -/
mutual
theorem decAvp_safe (cfg : Cfg) (dict : Lookup) : ∀ (fuel depth : Nat) (c : Cur),
    (decAvp cfg dict fuel depth c).Safe True (c.rem / 4 + 1 ≤ fuel)
  | 0, _, _ => ⟨fun _ => by simp [decAvp], fun h => by omega⟩
  | fuel+1, depth, c => by
    simp only [decAvp]
    refine (decHdr_safe c).bind fun ⟨hd, c1⟩ hh => ?_
    dsimp only
    have h8 := (decHdr_adv hh).2.2
    have := hdrLen_ge hd.vendor
    have h24 := (decHdr_ok hh).1
    split
    · exact Out.Safe.err nofun
    · -- the checked subtraction is guarded by the test just made
      rw [checkedSub_of_le (by omega)]
      simp only [Out.bind_ok]
      refine Out.Safe.bind ?_ fun _ _ => Out.Safe.ok _
      split
      · split
        · exact Out.Safe.err nofun
        · exact ((decGroup_safe cfg dict fuel (depth+1) _ 0 c1).mono (fun _ => by omega) (fun _ => by omega)).bind
            fun _ _ => Out.Safe.ok _
      · exact Out.Safe.err nofun
      · exact decLeaf_safe ..
theorem decGroup_safe (cfg : Cfg) (dict : Lookup) : ∀ (fuel depth len off : Nat) (c : Cur),
    (decGroup cfg dict fuel depth len off c).Safe (len < 16777216) (c.rem / 4 + 2 ≤ fuel)
  | 0, _, _, _, _ => ⟨fun _ => by simp [decGroup], fun h => by omega⟩
  | fuel+1, depth, len, off, c => by
    simp only [decGroup]
    split
    · refine ((decAvp_safe cfg dict fuel depth c).mono (fun _ => trivial) (fun _ => by omega)).bind fun ⟨a, c1⟩ ha => ?_
      obtain ⟨b1, b2⟩ := decAvp_bounds cfg dict fuel depth c c1 a ha
      have h8 := dec_rem.1 ha
      -- the offset stays below 2^24 + 2^24 + 4: the checked additions cannot wrap
      refine ((checkedAdd32_safe off a.len).mono (fun _ => by omega) id).bind fun o1 h1 => ?_
      obtain ⟨rfl, _⟩ := checkedAdd32_ok h1
      refine ((checkedAdd32_safe _ a.padding).mono (fun _ => by omega) id).bind fun _ _ => ?_
      exact ((decGroup_safe cfg dict fuel depth len _ c1).mono id (fun _ => by omega)).bind fun _ _ => Out.Safe.ok _
    · split <;> first | exact Out.Safe.ok _ | exact Out.Safe.err nofun
end

theorem decAvp_ne_fuel (cfg : Cfg) (dict : Lookup) : ∀ (fuel depth : Nat) (c : Cur),
    c.rem / 4 + 1 ≤ fuel → decAvp cfg dict fuel depth c ≠ .err .fuel :=
  fun fuel depth c => (decAvp_safe cfg dict fuel depth c).2

end Dia
