import Dia.ServerThm
/-! Successive calls of the stream reader on one stream - stopping at the first refusal (`decodeSeq`) or going on behind a
frame the message decoder refused (`decodeSeqAll`) - and the write side of the codec. -/
namespace Dia

/-- `n` successive `Codec::decode` calls on one stream (stopping at the first failure): each result with the number of
octets that call took from the stream -/
def decodeSeq (cfg : Cfg) (dict : Lookup) : Nat → List REv → List (COut × Nat)
  | 0, _ => []
  | n+1, evs =>
    let r := Codec.decode cfg dict evs
    match r.out with
    | .ok m => (.ok m, r.consumed) :: decodeSeq cfg dict n r.rest
    | .err e => [(.err e, r.consumed)]
    | .panic => [(.panic, r.consumed)]

/-- `Codec::encode`: encode into a buffer, then `write_all` it; nothing is written when encoding fails -/
def Codec.encodeTo (m : Msg) (w : List WEv) : Bool × Bytes :=
  match m.enc.err with
  | some _ => (false, [])
  | none => let r := writeAll m.enc.bytes w; (r.1, r.2.1)

/-- writing a message over a stream that accepts octets in arbitrary partial amounts puts exactly its encoding there -/
theorem Codec.encodeTo_ok (m : Msg) (w : List WEv) (hw : neverFails w) (he : m.enc.err = none) :
    Codec.encodeTo m w = (true, m.enc.bytes) := by
  unfold Codec.encodeTo
  rw [he]
  obtain ⟨w', h, _⟩ := writeAll_ok m.enc.bytes w hw
  simp [h]

/-! ### streams that also carry refused frames
A refusal costs exactly the refused frame. -/

/-- `n` successive `Codec::decode` calls on one stream, going on after a frame the message decoder refused (the stream
is at the next frame then) and stopping at the first failure of the stream or of the framing -/
def decodeSeqAll (cfg : Cfg) (dict : Lookup) : Nat → List REv → List (COut × Nat)
  | 0, _ => []
  | n+1, evs =>
    let r := Codec.decode cfg dict evs
    match r.out with
    | .ok m => (.ok m, r.consumed) :: decodeSeqAll cfg dict n r.rest
    | .err .decode => (.err .decode, r.consumed) :: decodeSeqAll cfg dict n r.rest
    | .err e => [(.err e, r.consumed)]
    | .panic => [(.panic, r.consumed)]

/-- `decodeSeqAll_framed` below with anything behind the frames: after the frames the calls go on with a script that delivers
exactly the rest -/
theorem decodeSeqAll_prefix (cfg : Cfg) (dict : Lookup) :
    ∀ (frames : List Bytes) (evs : List REv) (more : Bytes) (k : Nat),
    (∀ f ∈ frames, Framed f) → noEmpty evs → flat evs = frames.flatten ++ more →
    ∃ evs', decodeSeqAll cfg dict (frames.length + k) evs =
        frames.map (fun f => (COut.ofDec (decMsg cfg dict f), f.length)) ++ decodeSeqAll cfg dict k evs' ∧
      flat evs' = more ∧ noEmpty evs' := by
  intro frames evs more k hfr hne hflat
  induction frames generalizing evs with
  | nil => exact ⟨evs, by simp, by simpa using hflat, hne⟩
  | cons f fs ih =>
    obtain ⟨hf, hfr⟩ := List.forall_mem_cons.mp hfr
    obtain ⟨evs1, hd, hf1, hne1⟩ := Codec.decode_framed cfg dict evs f (fs.flatten ++ more) hne
      (by simpa using hflat) hf
    obtain ⟨evs2, ih', hf2, hne2⟩ := ih evs1 hfr hne1 hf1
    refine ⟨evs2, ?_, hf2, hne2⟩
    rw [List.length_cons, Nat.add_right_comm, decodeSeqAll, hd]
    cases hdm : decMsg cfg dict f with
    | panic => exact absurd hdm (decMsg_ne_panic cfg dict f)
    | _ => simp [COut.ofDec, hdm, ih']

/-- C06 for streams that also carry refused frames (`C06_read_refused`): `decodeSeqAll_prefix` with nothing to go on with -/
theorem decodeSeqAll_framed (cfg : Cfg) (dict : Lookup) :
    ∀ (frames : List Bytes) (evs : List REv) (more : Bytes),
    (∀ f ∈ frames, Framed f) → (∀ f ∈ frames, decMsg cfg dict f ≠ .panic) →
    noEmpty evs → flat evs = frames.flatten ++ more →
    decodeSeqAll cfg dict frames.length evs = frames.map (fun f => (COut.ofDec (decMsg cfg dict f), f.length)) := by
  intro frames evs more hfr _ hne hflat
  obtain ⟨evs', h, _, _⟩ := decodeSeqAll_prefix cfg dict frames evs more 0 hfr hne hflat
  simpa [decodeSeqAll] using h

end Dia
