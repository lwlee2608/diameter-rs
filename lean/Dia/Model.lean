/-! The codec of lwlee2608/diameter-rs (`src/avp/*.rs`, `src/diameter.rs`, after the `fix:` commits) as Lean functions: values and
AVPs with their stored lengths, the encoder, the decoder over a seekable cursor. Import-free, so that the driver links. -/
namespace Dia

abbrev Bytes := List UInt8

def be16 (n : Nat) : Bytes := [(n / 256 % 256).toUInt8, (n % 256).toUInt8]
def be24 (n : Nat) : Bytes := [(n / 65536 % 256).toUInt8, (n / 256 % 256).toUInt8, (n % 256).toUInt8]
def be32 (n : Nat) : Bytes :=
  [(n / 16777216 % 256).toUInt8, (n / 65536 % 256).toUInt8, (n / 256 % 256).toUInt8, (n % 256).toUInt8]
def be64 (n : Nat) : Bytes := be32 (n / 4294967296) ++ be32 (n % 4294967296)
def fromBe (bs : Bytes) : Nat := bs.foldl (fun acc b => acc * 256 + b.toNat) 0
def pad (n : Nat) : Nat := (4 - n % 4) % 4

/-! UTF-8 well-formedness (Unicode 15, Table 3-7) -/
def utf8Valid : Bytes → Bool
  | [] => true
  | b0 :: r =>
    let x := b0.toNat
    if x < 0x80 then utf8Valid r
    else if 0xC2 ≤ x ∧ x ≤ 0xDF then
      match r with
      | b1 :: r => 0x80 ≤ b1.toNat && b1.toNat ≤ 0xBF && utf8Valid r
      | _ => false
    else if 0xE0 ≤ x ∧ x ≤ 0xEF then
      match r with
      | b1 :: b2 :: r =>
        let lo := if x = 0xE0 then 0xA0 else 0x80
        let hi := if x = 0xED then 0x9F else 0xBF
        lo ≤ b1.toNat && b1.toNat ≤ hi && 0x80 ≤ b2.toNat && b2.toNat ≤ 0xBF && utf8Valid r
      | _ => false
    else if 0xF0 ≤ x ∧ x ≤ 0xF4 then
      match r with
      | b1 :: b2 :: b3 :: r =>
        let lo := if x = 0xF0 then 0x90 else 0x80
        let hi := if x = 0xF4 then 0x8F else 0xBF
        lo ≤ b1.toNat && b1.toNat ≤ hi && 0x80 ≤ b2.toNat && b2.toNat ≤ 0xBF &&
          0x80 ≤ b3.toNat && b3.toNat ≤ 0xBF && utf8Valid r
      | _ => false
    else false

inductive Ty
  | address | ipv4 | ipv6 | identity | uri | enumerated | float32 | float64 | grouped
  | integer32 | integer64 | octets | time | unsigned32 | unsigned64 | utf8 | unknown
deriving DecidableEq, Repr

inductive Addr
  | v4 (b : Bytes)      -- 4 octets
  | v6 (b : Bytes)      -- 16 octets
  | e164 (s : Bytes)    -- text, utf-8
deriving DecidableEq, Repr

mutual
inductive Value
  | address (a : Addr)
  | ipv4 (b : Bytes)
  | ipv6 (b : Bytes)
  | identity (s : Bytes)
  | uri (b : Bytes)
  | enumerated (v : UInt32)
  | float32 (bits : UInt32)
  | float64 (bits : UInt64)
  | grouped (ms : List Avp)
  | integer32 (v : UInt32)
  | integer64 (v : UInt64)
  | octets (b : Bytes)
  | time (unixSecs : Int) (nanos : Nat)
  | unsigned32 (v : UInt32)
  | unsigned64 (v : UInt64)
  | utf8 (s : Bytes)
inductive Avp
  | mk (code : UInt32) (vendor : Option UInt32) (m p : Bool) (len : Nat) (padding : Nat) (v : Value)
end

def Avp.len : Avp → Nat | .mk _ _ _ _ l _ _ => l
def Avp.padding : Avp → Nat | .mk _ _ _ _ _ p _ => p
def Avp.padded (a : Avp) : Nat := a.len + a.padding
def Avp.code : Avp → UInt32 | .mk c _ _ _ _ _ _ => c
def Avp.vendor : Avp → Option UInt32 | .mk _ v _ _ _ _ _ => v
def Avp.value : Avp → Value | .mk _ _ _ _ _ _ v => v

def lenList : List Avp → Nat
  | [] => 0
  | a :: as => a.padded + lenList as

/-- `AvpValue::length()` : the value's self-reported length -/
def Value.len : Value → Nat
  | .address (.v4 _) => 6
  | .address (.v6 _) => 18
  | .address (.e164 s) => 2 + s.length
  | .ipv4 _ => 4 | .ipv6 _ => 16
  | .identity s => s.length | .uri b => b.length
  | .enumerated _ => 4 | .float32 _ => 4 | .float64 _ => 8
  | .grouped ms => lenList ms
  | .integer32 _ => 4 | .integer64 _ => 8
  | .octets b => b.length
  | .time _ _ => 4
  | .unsigned32 _ => 4 | .unsigned64 _ => 8
  | .utf8 s => s.length

def hdrLen (vendor : Option UInt32) : Nat := if vendor.isSome then 12 else 8

def Avp.new (code : UInt32) (vendor : Option UInt32) (flags : UInt8) (v : Value) : Avp :=
  .mk code vendor (flags &&& 0x40 != 0) (flags &&& 0x20 != 0) (hdrLen vendor + v.len) (pad v.len) v

def flagsByte (vendor : Option UInt32) (m p : Bool) : UInt8 :=
  (if vendor.isSome then 0x80 else 0) ||| (if m then 0x40 else 0) ||| (if p then 0x20 else 0)

def RFC868 : Int := 2208988800     -- `RFC868_OFFSET` of `src/avp/time.rs`: seconds from 1900 to 1970

inductive Err | eof | unknownAvp | mismatch | fuel | short | deep | utf8 | addr | cmd | app | timeRange | tooLong
deriving DecidableEq, Repr

inductive Out (α : Type) | ok (a : α) | err (e : Err) | panic
deriving Repr

@[inline] def Out.bind {α β} (x : Out α) (f : α → Out β) : Out β :=
  match x with
  | .ok a => f a
  | .err e => .err e
  | .panic => .panic

/-- Rust `a - b` on unsigned integers with overflow checks: panics when it would wrap -/
def checkedSub (a b : Nat) : Out Nat := if a < b then .panic else .ok (a - b)
/-- Rust `a + b` on `u32` with overflow checks -/
def checkedAdd32 (a b : Nat) : Out Nat := if a + b ≥ 4294967296 then .panic else .ok (a + b)

/-! ### encoder: the octets handed to the writer and the first internal error -/

structure Enc where
  bytes : Bytes
  err : Option Err

def Enc.ok (b : Bytes) : Enc := ⟨b, none⟩
def Enc.andThen (a : Enc) (b : Unit → Enc) : Enc :=
  match a.err with
  | some e => ⟨a.bytes, some e⟩
  | none => let r := b (); ⟨a.bytes ++ r.bytes, r.err⟩

def hdrBytes (code : UInt32) (vendor : Option UInt32) (m p : Bool) (len : Nat) : Bytes :=
  be32 code.toNat ++ flagsByte vendor m p :: be24 len ++
      (match vendor with | some x => be32 x.toNat | none => [])

def encHdr (code : UInt32) (vendor : Option UInt32) (m p : Bool) (len : Nat) : Enc :=
  if len > 0xFFFFFF then ⟨[], some .tooLong⟩ else .ok (hdrBytes code vendor m p len)

mutual
def Value.enc : Value → Enc
  | .address (.v4 b) => .ok ([0, 1] ++ b)
  | .address (.v6 b) => .ok ([0, 2] ++ b)
  | .address (.e164 s) => .ok ([0, 8] ++ s)
  | .ipv4 b => .ok b | .ipv6 b => .ok b
  | .identity s => .ok s | .uri b => .ok b
  | .enumerated v => .ok (be32 v.toNat) | .float32 v => .ok (be32 v.toNat) | .float64 v => .ok (be64 v.toNat)
  | .grouped ms => encList ms
  | .integer32 v => .ok (be32 v.toNat) | .integer64 v => .ok (be64 v.toNat)
  | .octets b => .ok b
  | .time secs _ =>
    let t := secs + RFC868
    if t > 4294967295 then ⟨[], some .timeRange⟩
    else if t < 0 then ⟨[], some .timeRange⟩
    else .ok (be32 t.toNat)
  | .unsigned32 v => .ok (be32 v.toNat) | .unsigned64 v => .ok (be64 v.toNat)
  | .utf8 s => .ok s
def Avp.enc : Avp → Enc
  | .mk code vendor m p len padding v =>
    (encHdr code vendor m p len).andThen fun _ =>
      v.enc.andThen fun _ => .ok (List.replicate padding 0)
def encList : List Avp → Enc
  | [] => .ok []
  | a :: as => a.enc.andThen fun _ => encList as
end

structure Msg where
  version : UInt8
  length : Nat
  flags : UInt8
  cmd : Nat
  app : Nat
  hbh : UInt32
  e2e : UInt32
  avps : List Avp

/-- the command codes and application ids the library's two enums hold. A parameter of the model like the nesting limit:
probed from the code on every run (every 24-bit command code and every 32-bit application id is tried), so that a new
enum variant is followed and not mistaken for a defect. The defaults are the tables of the pinned commit. -/
structure Tables where
  cmds : List Nat := [0, 257, 280, 282, 258, 275, 274, 272, 8388635, 8388636, 271, 265]
  apps : List Nat := [0, 3, 4, 16777238, 16777236, 16777302]

def Tables.cmdKnown (T : Tables) (c : Nat) : Bool := decide (c ∈ T.cmds)
def Tables.appKnown (T : Tables) (a : Nat) : Bool := decide (a ∈ T.apps)

/-- every command code fits the 24-bit header field and every application id the 32-bit one -/
def Tables.Fit (T : Tables) : Prop := (∀ c ∈ T.cmds, c < 16777216) ∧ (∀ a ∈ T.apps, a < 4294967296)
def Tables.fitB (T : Tables) : Bool := T.cmds.all (· < 16777216) && T.apps.all (· < 4294967296)

theorem Tables.fit_of_fitB (T : Tables) (h : T.fitB = true) : T.Fit := by
  simp only [Tables.fitB, Bool.and_eq_true, List.all_eq_true, decide_eq_true_eq] at h
  exact h

theorem Tables.cmd_lt {T : Tables} (hf : T.Fit) {c : Nat} (h : T.cmdKnown c = true) : c < 16777216 :=
  hf.1 c (by simpa [Tables.cmdKnown] using h)
theorem Tables.app_lt {T : Tables} (hf : T.Fit) {a : Nat} (h : T.appKnown a = true) : a < 4294967296 :=
  hf.2 a (by simpa [Tables.appKnown] using h)

def Msg.enc (m : Msg) : Enc :=
  if m.length > 0xFFFFFF then ⟨[], some .tooLong⟩ else
  (Enc.ok (m.version :: be24 m.length ++ m.flags :: be24 m.cmd ++ be32 m.app ++ be32 m.hbh.toNat ++ be32 m.e2e.toNat)).andThen
    fun _ => encList m.avps

/-! ### decoder

`Cur`: a `std::io::Cursor` over the frame, used through `Read` and `Seek` (skipping padding may put the position past the end:
`past`). `decHdr`: `AvpHeader::decode_from`. `decLeaf`: the arms of the `match avp_type` in `Avp::decode_from_depth` other than
`Grouped`, each calling the `decode_from` of its type - the fixed-size types (`ofFixed`) read their natural size and never look
at the declared length, which is what `Cfg.lenient` below is about; `decAddr`: `Address::decode_from` (`src/avp/address.rs`).
`decAvp`: `Avp::decode_from_depth`. `decGroup`: the member loop, which the code has twice - in `Grouped::decode_from_depth`
(`src/avp/group.rs`, running offset in `usize`) and in `DiameterMessage::decode_from` (offset in `u32`: `checkedAdd32` follows
this one). `decMsg`: `DiameterMessage::decode_from` with `DiameterHeader::decode_from`. The fuel argument is an artefact of
structural recursion, the code has none; `decMsg` hands out `bs.length + 1`, which never runs out (`decMsg_safe`, Dia/Top.lean). -/

inductive Cur
  | inRange (rest : Bytes)
  | past (over : Nat)        -- position is over+1 octets beyond the end
deriving Repr

def Cur.read (c : Cur) (n : Nat) : Out (Bytes × Cur) :=
  if n = 0 then .ok ([], c) else
  match c with
  | .inRange r => if n ≤ r.length then .ok (r.take n, .inRange (r.drop n)) else .err .eof
  | .past _ => .err .eof

def Cur.skip (c : Cur) (k : Nat) : Cur :=
  if k = 0 then c else
  match c with
  | .inRange r => if k ≤ r.length then .inRange (r.drop k) else .past (k - r.length - 1)
  | .past o => .past (o + k)

/-! Compiler-only replacements (`@[csimp]`, i.e. *proved* equal) for the two cursor primitives, whose definitions
compute `r.length` on every call - quadratic on a 1 MiB frame. The theorems speak about the plain definitions. -/

def lenGe {α : Type} : List α → Nat → Bool
  | _, 0 => true
  | [], _+1 => false
  | _ :: r, n+1 => lenGe r n

theorem lenGe_iff {α : Type} : ∀ (l : List α) (n : Nat), lenGe l n = true ↔ n ≤ l.length
  | _, 0 | [], _+1 => by simp [lenGe]
  | _ :: r, n+1 => by simp [lenGe, lenGe_iff r n]

def Cur.readFast (c : Cur) (n : Nat) : Out (Bytes × Cur) :=
  if n = 0 then .ok ([], c) else
  match c with
  | .inRange r => if lenGe r n then .ok (r.take n, .inRange (r.drop n)) else .err .eof
  | .past _ => .err .eof

@[csimp] theorem Cur.read_eq_readFast : @Cur.read = @Cur.readFast := by
  funext c n
  cases c <;> simp [Cur.read, Cur.readFast, lenGe_iff]

def Cur.skipFast (c : Cur) (k : Nat) : Cur :=
  if k = 0 then c else
  match c with
  | .inRange r => if lenGe r k then .inRange (r.drop k) else .past (k - r.length - 1)
  | .past o => .past (o + k)

@[csimp] theorem Cur.skip_eq_skipFast : @Cur.skip = @Cur.skipFast := by
  funext c k
  cases c <;> simp [Cur.skip, Cur.skipFast, lenGe_iff]


inductive Dir | shorter | longer
deriving DecidableEq, Repr

/- `lenient ty dir`: whether a value of the fixed-size type `ty` is accepted under a declared length that is shorter / longer
than its natural size. The code has no such test (finding F1, DESIGN.md section 6); the check probes what it does on every run. -/
structure Cfg where
  lenient : Ty → Dir → Bool
  limit : Nat
  tables : Tables := {}

abbrev Lookup := UInt32 → Option UInt32 → Ty

structure Hdr where
  code : UInt32
  vendor : Option UInt32
  m : Bool
  p : Bool
  len : Nat

def decHdr (c : Cur) : Out (Hdr × Cur) :=
  (c.read 8).bind fun (h, c) =>
    let code := (fromBe (h.take 4)).toUInt32
    let fl := h.getD 4 0
    let len := fromBe (h.drop 5)
    if fl &&& 0x80 != 0 then
      (c.read 4).bind fun (vb, c) =>
        .ok (⟨code, some (fromBe vb).toUInt32, fl &&& 0x40 != 0, fl &&& 0x20 != 0, len⟩, c)
    else .ok (⟨code, none, fl &&& 0x40 != 0, fl &&& 0x20 != 0, len⟩, c)

def fixedSize : Ty → Option Nat
  | .ipv4 => some 4 | .ipv6 => some 16 | .enumerated => some 4 | .float32 => some 4 | .float64 => some 8
  | .integer32 => some 4 | .integer64 => some 8 | .time => some 4 | .unsigned32 => some 4 | .unsigned64 => some 8
  | _ => none

def ofFixed : Ty → Bytes → Value
  | .ipv4, b => .ipv4 b | .ipv6, b => .ipv6 b
  | .enumerated, b => .enumerated (fromBe b).toUInt32
  | .float32, b => .float32 (fromBe b).toUInt32
  | .float64, b => .float64 (fromBe b).toUInt64
  | .integer32, b => .integer32 (fromBe b).toUInt32
  | .integer64, b => .integer64 (fromBe b).toUInt64
  | .time, b => .time ((fromBe b : Nat) - RFC868) 0
  | .unsigned32, b => .unsigned32 (fromBe b).toUInt32
  | .unsigned64, b => .unsigned64 (fromBe b).toUInt64
  | _, b => .octets b

def decAddr (vl : Nat) (c : Cur) : Out (Value × Cur) :=
  (c.read 2).bind fun (f, c) =>
    match f with
    | [0, 1] => if vl ≠ 6 then .err .addr else (c.read 4).bind fun (b, c) => .ok (.address (.v4 b), c)
    | [0, 2] => if vl ≠ 18 then .err .addr else (c.read 16).bind fun (b, c) => .ok (.address (.v6 b), c)
    | [0, 8] =>
      if vl > 17 then .err .addr else if vl < 3 then .err .addr else
      (checkedSub vl 2).bind fun n =>
      if n > 15 then .panic else        -- `&mut b[0..actual_len]` on a 15-octet buffer
      (c.read n).bind fun (b, c) => if utf8Valid b then .ok (.address (.e164 b), c) else .err .utf8
    | _ => .err .addr

def decLeaf (cfg : Cfg) (ty : Ty) (vl : Nat) (c : Cur) : Out (Value × Cur) :=
  match fixedSize ty with
  | some n =>
    if vl < n ∧ ¬ cfg.lenient ty .shorter then .err .mismatch
    else if vl > n ∧ ¬ cfg.lenient ty .longer then .err .mismatch
    else (c.read n).bind fun (b, c) => .ok (ofFixed ty b, c)
  | none =>
    match ty with
    | .address => decAddr vl c
    | .utf8 => (c.read vl).bind fun (b, c) => if utf8Valid b then .ok (.utf8 b, c) else .err .utf8
    | .identity => (c.read vl).bind fun (b, c) => if utf8Valid b then .ok (.identity b, c) else .err .utf8
    | .octets => (c.read vl).bind fun (b, c) => .ok (.octets b, c)
    | .uri => (c.read vl).bind fun (b, c) => .ok (.uri b, c)
    | _ => .err .unknownAvp

mutual
def decAvp (cfg : Cfg) (dict : Lookup) : Nat → Nat → Cur → Out (Avp × Cur)
  | 0, _, _ => .err .fuel
  | fuel+1, depth, c =>
    (decHdr c).bind fun (h, c) =>
      if h.len < hdrLen h.vendor then .err .short else
      (checkedSub h.len (hdrLen h.vendor)).bind fun vl =>
      (match dict h.code h.vendor with
        | .grouped =>
          if depth + 1 > cfg.limit then (Out.err .deep : Out (Value × Cur)) else
          (decGroup cfg dict fuel (depth+1) vl 0 c).bind fun (ms, c) => Out.ok (Value.grouped ms, c)
        | .unknown => Out.err .unknownAvp
        | ty => decLeaf cfg ty vl c).bind fun (v, c) =>
        .ok (.mk h.code h.vendor h.m h.p h.len (pad vl) v, c.skip (pad vl))
def decGroup (cfg : Cfg) (dict : Lookup) : Nat → Nat → Nat → Nat → Cur → Out (List Avp × Cur)
  | 0, _, _, _, _ => .err .fuel
  | fuel+1, depth, len, off, c =>
    if off < len then
      (decAvp cfg dict fuel depth c).bind fun (a, c) =>
        (checkedAdd32 off a.len).bind fun o1 =>
        (checkedAdd32 o1 a.padding).bind fun o2 =>
        (decGroup cfg dict fuel depth len o2 c).bind fun (as, c) => .ok (a :: as, c)
    else if off = len then .ok ([], c) else .err .mismatch
end

def decMsg (cfg : Cfg) (dict : Lookup) (bs : Bytes) : Out Msg :=
  ((Cur.inRange bs).read 20).bind fun (h, c) =>
    let version := h.getD 0 0
    let length := fromBe ((h.drop 1).take 3)
    let flags := h.getD 4 0
    let cmd := fromBe ((h.drop 5).take 3)
    let app := fromBe ((h.drop 8).take 4)
    let hbh := (fromBe ((h.drop 12).take 4)).toUInt32
    let e2e := (fromBe ((h.drop 16).take 4)).toUInt32
    if ¬ cfg.tables.cmdKnown cmd then .err .cmd else
    if ¬ cfg.tables.appKnown app then .err .app else
    (decGroup cfg dict (bs.length + 1) 0 length 20 c).bind fun (avps, _) =>
      .ok ⟨version, length, flags, cmd, app, hbh, e2e, avps⟩

end Dia
