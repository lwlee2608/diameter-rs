import Dia.DictRefine
/-! # C14 - Dictionary lookups reflect exactly what was loaded, latest wins. Property theorems only.
The abstract spec is the list of definitions supplied so far (since the last construction), in order: a lookup
returns the *last* one supplied for exactly that (code, vendor) pair. -/
namespace Dia

/-- the refinement: after any history the concrete map represents the supplied definitions -/
theorem C14_refines (ops : List DOp) : Refines (runD ops).avps (supplied ops) := by
  refine List.foldl_rel (r := fun (D : Dict) (defs : List Def) => Refines D.avps defs) refines_nil ?_
  intro op _ D defs h
  cases op with
  | construct docs => exact construct_refines docs
  | load doc => exact loadDoc_refines h doc
  | add d => exact refines_add h d

/-- **C14, lookup by code and vendor.** After any history of constructions, document loads and single additions, the
lookup returns the most recently supplied definition for exactly that pair - name, type and mandatory flag all from
that one definition - and nothing for a pair never defined. -/
theorem C14_get (ops : List DOp) (code : UInt32) (vendor : Option UInt32) :
    (runD ops).get code vendor = specGet (supplied ops) (keyOf code vendor) :=
  (C14_refines ops).get _

/-- `get_avp_type` / `get_avp_name` are projections of the same definition -/
theorem C14_type_name (D : Dict) (code : UInt32) (vendor : Option UInt32) :
    D.getType code vendor = (D.get code vendor).map (·.ty) ∧
    D.getName code vendor = (D.get code vendor).map (·.name) := ⟨rfl, rfl⟩

/-- a vendor-specific and a vendor-less definition sharing a code never shadow or overwrite each other -/
theorem C14_no_shadow (D : Dict) (d : Def) (code : UInt32) (vendor : Option UInt32)
    (h : keyOf d.code d.vendor ≠ keyOf code vendor) : (D.add d).get code vendor = D.get code vendor := by
  unfold Dict.get Dict.add Def.key
  simp only [lookup_insert, if_neg h]

theorem C14_keys_distinct (c : UInt32) (v : UInt32) : keyOf c none ≠ keyOf c (some v) := by
  simp [keyOf]

/-- **C14, lookup by name (soundness).** What the name lookup returns carries that name and is *live*: it is the
definition the (code, vendor) lookup currently returns for its own pair. -/
theorem C14_by_name_live (ops : List DOp) (n : String) (d : Def) (h : (runD ops).getByName n = some d) :
    d.name = n ∧ (runD ops).get d.code d.vendor = some d := by
  obtain ⟨⟨k, d⟩, hf, rfl⟩ := Option.map_eq_some_iff.mp h
  have hr := C14_refines ops
  have hm := List.mem_of_find?_eq_some hf
  cases hr.keys k d hm
  exact ⟨by simpa using List.find?_some hf, lookup_of_mem hr.sorted hm⟩

/-- **C14, lookup by name (completeness).** It returns a definition if and only if some live definition carries the
name. -/
theorem C14_by_name_iff (ops : List DOp) (n : String) :
    ((runD ops).getByName n).isSome ↔
      ∃ code vendor d, (runD ops).get code vendor = some d ∧ d.name = n := by
  constructor
  · intro h
    obtain ⟨d, hg⟩ := Option.isSome_iff_exists.mp h
    obtain ⟨h1, h2⟩ := C14_by_name_live ops n d hg
    exact ⟨d.code, d.vendor, d, h2, h1⟩
  · rintro ⟨code, vendor, d, hget, hn⟩
    rw [Dict.getByName, Option.isSome_map, List.find?_isSome]
    exact ⟨_, mem_of_lookup hget, by simpa using hn⟩

/-- application and command names resolve to the identifiers they were (last) declared with -/
theorem C14_app_declared (D : Dict) (app : DocApp) : (D.loadApp app).appByName app.name = some app.id := by
  simp [loadApp_eq, Dict.appByName, lookupName]

/-- **application and command names over whole histories.** After any history, an application (command) name resolves
to the identifier of the *last* declaration of that name supplied since the last construction, and to nothing if it
was never declared. -/
theorem C14_apps_cmds (ops : List DOp) (n : String) :
    (runD ops).appByName n = ((declaredApps ops).reverse.find? (fun p => p.1 = n)).map (·.2) ∧
    (runD ops).cmdByName n = ((declaredCmds ops).reverse.find? (fun p => p.1 = n)).map (·.2) := by
  obtain ⟨h1, h2⟩ := run_apps_cmds ops
  unfold Dict.appByName Dict.cmdByName
  rw [h1, h2, lookupName_eq_find, lookupName_eq_find]
  exact ⟨rfl, rfl⟩

/-- the mandatory flag is set exactly when the comma-separated `must` list contains the item `M` -/
theorem C14_mflag (must : Option String) :
    mFlag must = match must with | some s => (s.splitOn ",").contains "M" | none => false := by
  rfl

/-! non-vacuity: twins under one code, the later definition of a key wins -/
example : let ops := [DOp.add ⟨7, none, "a", .utf8, false⟩, .add ⟨7, some 5, "b", .unsigned32, true⟩,
                      .add ⟨7, none, "c", .octets, true⟩]
    ((runD ops).get 7 none).map (·.name) = some "c" ∧ ((runD ops).get 7 (some 5)).map (·.name) = some "b" ∧
    (runD ops).get 7 (some 6) = none := by
  decide

end Dia
