import Dia.ClientThm
/-! # C12 - Every response future eventually completes. Property theorems only.
Liveness is stated as safety over terminal states: the reader's stop step is the only step that matters, and it
resolves everything at once; a future can stay pending only while the reader runs and its waiter is still
registered (an open, silent peer) or a delivery is under way. -/
namespace Dia.Cl

/-- **C12.** Once the reader has stopped - whatever stopped it: close, reset, an undecodable or an unmatched message -
the connection is marked closed and every future ever created, handed out or not, is resolved (answer or error). -/
theorem C12_stopped (ls : List Label) (s : St) (h : run init ls = some s) (hs : s.reader = .stopped) :
    s.closed = true ∧ ∀ w, w < s.nW → s.status w ≠ .pending := by
  have hi := inv_run ls inv_init h
  refine ⟨(hi.stopped_ok hs).1, fun w hw hp => ?_⟩
  rcases hi.pending_ok w hw hp with hc | ⟨m, hm⟩
  · rw [(hi.stopped_ok hs).2] at hc; cases hc
  · rw [hs] at hm; cases hm


/-- a send attempted after the reader has stopped is refused under the lock: no waiter is created, nothing can hang -/
theorem C12_send_after_stop (ls : List Label) (s : St) (h : run init ls = some s) (hs : s.reader = .stopped)
    (hidle : s.send = .idle) (hb : Nat) : step s (.sendBegin hb) = some s := by
  have hc := ((inv_run ls inv_init h).stopped_ok hs).1
  simp [step, hidle, hc]

/-- a waiter superseded by a newer request with the same identifier is dropped (its future fails) at that very step -/
theorem C12_superseded (s s' : St) (hb w : Nat) (hc : s.cache hb = some w) (hcl : s.closed = false)
    (hidle : s.send = .idle) (hw : w < s.nW) (h : step s (.sendBegin hb) = some s') : s'.status w = .dropped := by
  simp only [step, hidle, hcl, hc] at h
  simp at h
  subst h
  simp [upd]

/-- the only way to stay pending: the reader has not stopped and the waiter is still registered under its id (an
open, silent peer) or the reader is about to deliver to it -/
theorem C12_pending_means_waiting (ls : List Label) (s : St) (h : run init ls = some s) (w : Nat)
    (hw : w < s.nW) (hp : s.status w = .pending) :
    s.reader ≠ .stopped ∧ (s.cache (s.hbhOf w) = some w ∨ ∃ m, s.reader = .removed m w) := by
  have hi := inv_run ls inv_init h
  refine ⟨fun hs => ?_, hi.pending_ok w hw hp⟩
  exact (C12_stopped ls s h hs).2 w hw hp

/-- **the reader cannot get stuck on the way to stopping.** Whatever state the sender and the other waiters are in:
an undecodable item, a close or a reset at the head of the wire takes the running reader to `stopping`; a decoded
message nobody waits for does the same; and from `stopping` the stop step is always enabled and leads to `stopped` -
so every way the connection can go wrong ends in the state `C12_stopped` speaks about. -/
theorem C12_stop_path (s : St) :
    (s.reader = .running → ∀ rest, s.wire = .bad :: rest →
      ∃ s', step s .readerDecode = some s' ∧ s'.reader = .stopping) ∧
    (∀ m, s.reader = .decoded m → s.cache m.hbh = none →
      ∃ s', step s .readerRemove = some s' ∧ s'.reader = .stopping) ∧
    (s.reader = .stopping → ∃ s', step s .readerStop = some s' ∧ s'.reader = .stopped) := by
  refine ⟨?_, ?_, ?_⟩
  · intro hr rest hw
    refine ⟨{ s with wire := rest, reader := .stopping }, ?_, rfl⟩
    simp [step, hr, hw]
  · intro m hr hc
    refine ⟨{ s with reader := .stopping }, ?_, rfl⟩
    simp [step, hr, hc]
  · intro hr
    simp [step, hr]

/-- non-vacuity: a run that registers, writes, gets answered, and stops -/
example : ∃ s, run init [.sendBegin 7, .write, .peerEmit (.msg ⟨7, 0⟩), .readerDecode, .readerRemove,
    .sendReturn, .readerDeliver, .peerEmit .bad, .readerDecode, .readerStop] = some s ∧
    s.status 0 = .got ⟨7, 0⟩ ∧ s.reader = .stopped := by
  refine ⟨_, rfl, ?_, ?_⟩ <;> decide

end Dia.Cl

/-! ## One client object, several connections (`connect()` called again)
`Dia/ClientMulti.lean`: all connections of a `DiameterClient` share one table and one `closed` flag. -/
namespace Dia.Cm
open Dia.Cl (Msg)

/-- **C12 for a client with any number of connections.** Once the reader of *any* connection has stopped, the shared
table is closed and empty, and a future can be unresolved only because the reader of another connection has already
taken its waiter out of the table and is about to hand it the answer - whichever connection the request was written
to, and whichever connection's reader stopped. -/
theorem C12_multi_stopped (ls : List Label) (s : St) (h : run init ls = some s) (c : Nat)
    (hs : s.reader c = .stopped) :
    s.closed = true ∧ (∀ hb, s.cache hb = none) ∧
    ∀ w, w < s.nW → s.status w = .pending → ∃ c' m, c' ≠ c ∧ s.reader c' = .removed m w := by
  have hi := inv_run ls inv_init h
  have hc := hi.stopped_ok c hs
  refine ⟨hc, hi.closed_ok hc, fun w hw hp => ?_⟩
  rcases hi.pending_ok w hw hp with h1 | ⟨c', m, hm⟩
  · rw [hi.closed_ok hc] at h1; cases h1
  · refine ⟨c', m, fun e => ?_, hm⟩
    subst e; rw [hs] at hm; cases hm

/-- ... and that hand-over cannot get stuck: the delivery step of such a reader is enabled in every state and resolves
the future with the answer. -/
theorem C12_multi_delivery_enabled (s : St) (c : Nat) (m : Msg) (w : Nat) (hr : s.reader c = .removed m w) :
    ∃ s', step s (.readerDeliver c) = some s' ∧ s'.status w = .got m :=
  ⟨_, (Step.deliver c m w hr).enabled, Cl.upd_same⟩

/-- so when every reader is at rest (none in the middle of a delivery) and one of them has stopped, no future is pending -/
theorem C12_multi_quiescent (ls : List Label) (s : St) (h : run init ls = some s) (c : Nat)
    (hs : s.reader c = .stopped) (hq : ∀ c' m w, s.reader c' ≠ .removed m w) :
    ∀ w, w < s.nW → s.status w ≠ .pending := by
  intro w hw hp
  obtain ⟨c', m, _, hm⟩ := (C12_multi_stopped ls s h c hs).2.2 w hw hp
  exact hq c' m w hm

/-- once closed, always refused: a later `connect()` does not re-open the table (the code never resets `closed`), so
no send after a stop - on the old or on a new connection - creates a waiter that nobody will release -/
theorem C12_multi_send_after_stop (ls : List Label) (s : St) (h : run init ls = some s) (c : Nat)
    (hs : s.reader c = .stopped) (ls2 : List Label) (s2 : St) (h2 : run s ls2 = some s2) (hidle : s2.send = .idle)
    (hb : Nat) : s2.closed = true ∧ step s2 (.sendBegin hb) = some s2 := by
  have hi := inv_run ls inv_init h
  have hc2 := closed_run ls2 h2 (hi.stopped_ok c hs)
  exact ⟨hc2, (Step.refuse hb hidle (.inr hc2)).enabled⟩

/-- the only ways to stay pending, with several connections: no reader of the client has stopped and the waiter is still
registered under its id (open, silent peers), or some connection's reader is about to deliver to it -/
theorem C12_multi_pending_means_waiting (ls : List Label) (s : St) (h : run init ls = some s) (w : Nat)
    (hw : w < s.nW) (hp : s.status w = .pending) :
    (s.cache (s.hbhOf w) = some w ∧ ∀ c, s.reader c ≠ .stopped) ∨ ∃ c m, s.reader c = .removed m w := by
  have hi := inv_run ls inv_init h
  rcases hi.pending_ok w hw hp with hc | hr
  · refine Or.inl ⟨hc, fun c hs => ?_⟩
    have := hi.closed_ok (hi.stopped_ok c hs) (s.hbhOf w)
    rw [hc] at this; cases this
  · exact Or.inr hr

/-- the reader of any connection cannot get stuck on the way to stopping: an undecodable item, a close or a reset at the
head of its wire takes it to `stopping`; so does a decoded message nobody waits for; and from `stopping` its stop step is
always enabled - whatever the other connections and the sender are doing -/
theorem C12_multi_stop_path (s : St) (c : Nat) (hc : c < s.nC) :
    (s.reader c = .running → ∀ rest, s.wire c = .bad :: rest →
      ∃ s', step s (.readerDecode c) = some s' ∧ s'.reader c = .stopping) ∧
    (∀ m, s.reader c = .decoded m → s.cache m.hbh = none →
      ∃ s', step s (.readerRemove c) = some s' ∧ s'.reader c = .stopping) ∧
    (s.reader c = .stopping → ∃ s', step s (.readerStop c) = some s' ∧ s'.reader c = .stopped) :=
  ⟨fun hr rest hw => ⟨_, (Step.undecodable c rest hc hr hw).enabled, Cl.upd_same⟩,
    fun m hr hcn => ⟨_, (Step.unmatched c m hr hcn).enabled, Cl.upd_same⟩,
    fun hr => ⟨_, (Step.stop c hr).enabled, Cl.upd_same⟩⟩

/-- non-vacuity, and the switch-over history itself: a request is outstanding on connection 0 when connection 1 is
attached; connection 0 ends; the request's future is resolved (with an error), connection 1 never said a word -/
example : ∃ s, run init [.connect, .sendBegin 501, .write, .sendReturn, .connect, .peerEmit 0 .bad, .readerDecode 0,
    .readerStop 0] = some s ∧ s.reader 0 = .stopped ∧ s.reader 1 = .running ∧ s.status 0 = .dropped ∧ s.nC = 2 := by
  refine ⟨_, rfl, ?_, ?_, ?_, ?_⟩ <;> decide

end Dia.Cm
