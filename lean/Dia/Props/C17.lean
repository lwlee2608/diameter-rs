import Dia.Fixed
import Dia.Leaf
/-! # C17 - Four-octet data types are exact bijections with their wire form
Property theorems only. Universally quantified over the four (eight) octets: all 2^32 (2^64) wire values. -/
namespace Dia

/-- big-endian value of four octets, written out -/
def be4val (a b c d : UInt8) : Nat := a.toNat * 2^24 + b.toNat * 2^16 + c.toNat * 2^8 + d.toNat

theorem fromBe4_eq (a b c d : UInt8) : fromBe [a,b,c,d] = be4val a b c d := by
  simp only [fromBe, List.foldl, be4val]; omega

theorem toNat_fromBe4 (a b c d : UInt8) : (fromBe [a,b,c,d]).toUInt32.toNat = be4val a b c d := by
  rw [UInt32.toNat_ofNat_of_lt' (fromBe4_lt _ _ _ _), fromBe4_eq]

/-- two's complement reading of four octets -/
theorem toI32_fromBe4 (a b c d : UInt8) : toI32 (fromBe [a,b,c,d]).toUInt32 =
    (if be4val a b c d < 2^31 then (be4val a b c d : Int) else (be4val a b c d : Int) - 2^32) := by
  -- the definition of `toI32`, its two constants written as powers
  unfold toI32
  rw [toNat_fromBe4]
  rfl

/-- the 1900 epoch: 70 years, 17 of them leap years, of 86400 seconds -/
theorem C17_epoch : (2208988800 : Nat) = (70 * 365 + 17) * 86400 := by decide

/-- Unsigned32: the big-endian unsigned value; re-encoding gives the same four octets -/
theorem C17_u32 (a b c d : UInt8) :
    ∃ v, ofFixed .unsigned32 [a,b,c,d] = .unsigned32 v ∧ v.toNat = be4val a b c d ∧
      (Value.unsigned32 v).enc = ⟨[a,b,c,d], none⟩ :=
  ⟨_, rfl, toNat_fromBe4 a b c d, (ofFixed_ok (ty := .unsigned32) rfl rfl).2.2.2⟩

/-- Integer32: big-endian two's complement -/
theorem C17_i32 (a b c d : UInt8) :
    ∃ v, ofFixed .integer32 [a,b,c,d] = .integer32 v ∧
      toI32 v = (if be4val a b c d < 2^31 then (be4val a b c d : Int) else (be4val a b c d : Int) - 2^32) ∧
      (Value.integer32 v).enc = ⟨[a,b,c,d], none⟩ :=
  ⟨_, rfl, toI32_fromBe4 a b c d, (ofFixed_ok (ty := .integer32) rfl rfl).2.2.2⟩

/-- Enumerated: identical to Integer32 -/
theorem C17_enum (a b c d : UInt8) :
    ∃ v, ofFixed .enumerated [a,b,c,d] = .enumerated v ∧
      toI32 v = (if be4val a b c d < 2^31 then (be4val a b c d : Int) else (be4val a b c d : Int) - 2^32) ∧
      (Value.enumerated v).enc = ⟨[a,b,c,d], none⟩ :=
  ⟨_, rfl, toI32_fromBe4 a b c d, (ofFixed_ok (ty := .enumerated) rfl rfl).2.2.2⟩

/-- Float32: the IEEE-754 single whose bit pattern is the four octets (no conversion, NaN payloads included) -/
theorem C17_f32 (a b c d : UInt8) :
    ∃ bits, ofFixed .float32 [a,b,c,d] = .float32 bits ∧ bits.toNat = be4val a b c d ∧
      (Value.float32 bits).enc = ⟨[a,b,c,d], none⟩ :=
  ⟨_, rfl, toNat_fromBe4 a b c d, (ofFixed_ok (ty := .float32) rfl rfl).2.2.2⟩

/-- Time: seconds since 1900-01-01T00:00:00Z, i.e. unix seconds = wire value - 2208988800; every wire value is in
range, so re-encoding never fails -/
theorem C17_time (a b c d : UInt8) :
    ofFixed .time [a,b,c,d] = .time ((be4val a b c d : Int) - 2208988800) 0 ∧
      (Value.time ((be4val a b c d : Int) - 2208988800) 0).enc = ⟨[a,b,c,d], none⟩ := by
  have hf := fromBe4_eq a b c d
  have hR : RFC868 = 2208988800 := rfl
  have ho : ofFixed .time [a,b,c,d] = .time ((be4val a b c d : Int) - 2208988800) 0 := by simp only [ofFixed, hf, hR]
  exact ⟨ho, ho ▸ (ofFixed_ok (ty := .time) rfl rfl).2.2.2⟩

/-- IPv4: the four octets themselves, shown as a dotted quad -/
theorem C17_ipv4 (a b c d : UInt8) :
    ofFixed .ipv4 [a,b,c,d] = .ipv4 [a,b,c,d] ∧ (Value.ipv4 [a,b,c,d]).enc = ⟨[a,b,c,d], none⟩ ∧
      dotted [a,b,c,d] =
        toString a.toNat ++ "." ++ toString b.toNat ++ "." ++ toString c.toNat ++ "." ++ toString d.toNat :=
  ⟨rfl, rfl, rfl⟩

/-- the four-octet decoders are injective: distinct wire values give distinct values (bijection with C17_*'s
re-encoding) -/
theorem C17_injective (ty : Ty) (hty : ty ∈ ty4) (x y : Bytes) (hx : x.length = 4) (hy : y.length = 4)
    (h : ofFixed ty x = ofFixed ty y) : x = y := by
  have hn : fixedSize ty = some 4 := by
    simp only [ty4, List.mem_cons, List.not_mem_nil, or_false] at hty
    rcases hty with rfl | rfl | rfl | rfl | rfl | rfl <;> rfl
  exact ofFixed_injective hn hx hy h

/-- eight-octet types: the same for all 2^64 patterns (stronger than the property asks) -/
theorem C17_u64 (bs : Bytes) (h : bs.length = 8) :
    ∃ v, ofFixed .unsigned64 bs = .unsigned64 v ∧ v.toNat = fromBe bs ∧ (Value.unsigned64 v).enc = ⟨bs, none⟩ :=
  ⟨_, rfl, UInt64.toNat_ofNat_of_lt' (be64_fromBe_len h).2, (ofFixed_ok (ty := .unsigned64) rfl h).2.2.2⟩

theorem C17_i64 (bs : Bytes) (h : bs.length = 8) :
    ∃ v, ofFixed .integer64 bs = .integer64 v ∧
      toI64 v = (if fromBe bs < 2^63 then (fromBe bs : Int) else (fromBe bs : Int) - 2^64) ∧
      (Value.integer64 v).enc = ⟨bs, none⟩ := by
  refine ⟨_, rfl, ?_, (ofFixed_ok (ty := .integer64) rfl h).2.2.2⟩
  unfold toI64
  rw [UInt64.toNat_ofNat_of_lt' (be64_fromBe_len h).2]
  rfl

theorem C17_f64 (bs : Bytes) (h : bs.length = 8) :
    ∃ bits, ofFixed .float64 bs = .float64 bits ∧ bits.toNat = fromBe bs ∧ (Value.float64 bits).enc = ⟨bs, none⟩ :=
  ⟨_, rfl, UInt64.toNat_ofNat_of_lt' (be64_fromBe_len h).2, (ofFixed_ok (ty := .float64) rfl h).2.2.2⟩

/-- and these are exactly the values the AVP decoder produces for a fixed-size type: `decLeaf` reads the natural
size and applies `ofFixed` (so the statements above are statements about decoding) -/
theorem C17_decoder (cfg : Cfg) (ty : Ty) (n : Nat) (hn : fixedSize ty = some n) (vb r : Bytes) (hl : vb.length = n) :
    decLeaf cfg ty n (.inRange (vb ++ r)) = .ok (ofFixed ty vb, .inRange r) :=
  decLeaf_fixed_rt hn hl

/-! non-vacuity / anchors -/
example : ofFixed .time [0,0,0,0] = .time (-2208988800) 0 := by simp [ofFixed, fromBe, RFC868]
example : ofFixed .time [0x83,0xaa,0x7e,0x80] = .time 0 0 := by simp [ofFixed, fromBe, RFC868]
example : ofFixed .integer32 [0xff,0xff,0xff,0xff] = .integer32 0xffffffff ∧ toI32 0xffffffff = -1 := by
  refine ⟨by simp [ofFixed, fromBe], by decide⟩

end Dia
