import Dia.Dict
import Dia.Dec

/-! # C15 - AVPs are typed by their exact dictionary entry or rejected. Property theorems only. -/
namespace Dia

/-- the sixteen documented data-type names -/
def knownTypeNames : List String :=
  ["UTF8String", "OctetString", "Integer32", "Integer64", "Unsigned32", "Unsigned64", "Enumerated", "Grouped",
   "DiameterIdentity", "DiameterURI", "Time", "Address", "IPv4", "IPv6", "Float32", "Float64"]

/-- each of the sixteen names produces the corresponding kind of value ... -/
theorem C15_names :
    tyOfName "UTF8String" = .utf8 ∧ tyOfName "OctetString" = .octets ∧ tyOfName "Integer32" = .integer32 ∧
    tyOfName "Integer64" = .integer64 ∧ tyOfName "Unsigned32" = .unsigned32 ∧ tyOfName "Unsigned64" = .unsigned64 ∧
    tyOfName "Enumerated" = .enumerated ∧ tyOfName "Grouped" = .grouped ∧ tyOfName "DiameterIdentity" = .identity ∧
    tyOfName "DiameterURI" = .uri ∧ tyOfName "Time" = .time ∧ tyOfName "Address" = .address ∧
    tyOfName "IPv4" = .ipv4 ∧ tyOfName "IPv6" = .ipv6 ∧ tyOfName "Float32" = .float32 ∧ tyOfName "Float64" = .float64 := by
  decide

/-- ... and every other spelling is an unrecognised type -/
theorem C15_unknown_name (n : String) (h : n ∉ knownTypeNames) : tyOfName n = .unknown := by
  unfold tyOfName
  -- in each of the sixteen named branches `n` is one of the known names; what is left is the default
  split <;> first | rfl | exact absurd (by simp [knownTypeNames]) h

/-- what the decoder asks the dictionary is `unknown` exactly when there is no entry for the exact (code, vendor)
pair or that entry's type name was not recognised -/
theorem C15_lookup_unknown_iff (D : Dict) (code : UInt32) (vendor : Option UInt32) :
    D.lookup code vendor = .unknown ↔
      D.get code vendor = none ∨ ∃ d, D.get code vendor = some d ∧ d.ty = .unknown := by
  unfold Dict.lookup Dict.getType
  cases D.get code vendor with
  | none | some d => simp

/-- an entry under another vendor (or only without one) is not an entry for this pair: the keys differ -/
theorem C15_exact_key (c : UInt32) (v w : UInt32) (h : v ≠ w) :
    keyOf c (some v) ≠ keyOf c (some w) ∧ keyOf c none ≠ keyOf c (some v) := by
  simp [keyOf, h]

/-- **C15, rejection.** An AVP whose exact (code, vendor) pair has no entry, or an entry of unrecognised type, makes
decoding fail with an error - whatever other entries (other vendors, neighbouring codes) the dictionary holds and
whatever follows the header. -/
theorem C15_reject (cfg : Cfg) (dict : Lookup) (fuel depth : Nat) (c c1 : Cur) (h : Hdr)
    (hh : decHdr c = .ok (h, c1)) (hd : dict h.code h.vendor = .unknown) :
    ∃ e, decAvp cfg dict (fuel+1) depth c = .err e := by
  simp only [decAvp, hh, Out.bind_ok]
  split
  · exact ⟨_, rfl⟩
  · rw [checkedSub_of_le (by omega)]
    simp only [Out.bind_ok, hd]
    exact ⟨_, rfl⟩

/-- **C15, typing.** Whatever the decoder returns for one AVP carries exactly the variant the dictionary entry for its
(code, vendor) pair declares - never a guess -/
theorem C15_variant (cfg : Cfg) (dict : Lookup) (fuel depth : Nat) (c c' : Cur) (a : Avp)
    (h : decAvp cfg dict fuel depth c = .ok (a, c')) :
    dict a.code a.vendor = tyOf a.value ∧ tyOf a.value ≠ .unknown := by
  refine ⟨?_, tyOf_ne_unknown a.value⟩
  obtain ⟨hd, c1, vl, v, c2, _, _, rfl, _, ⟨ms, hty, rfl, _⟩ | hv⟩ := decAvp_ok h
  · exact hty
  · exact (decLeaf_ok hv).1.symm

end Dia
