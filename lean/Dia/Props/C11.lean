import Dia.ClientPolite
import Dia.EndToEnd
/-! # C11 - Client delivers each answer to the request it belongs to. Property theorems only.
The client is the labelled transition system of `Dia/Client.lean`; a *run* is any list of labels, i.e. any
interleaving of the sender, the reader task and an arbitrary peer, at the granularity of the code's critical
sections. -/
namespace Dia.Cl

/-- **C11, safety - every interleaving, every peer.** Whatever a response future holds is a message the peer emitted,
and its hop-by-hop identifier is the identifier of that future's own request. -/
theorem C11_safety (ls : List Label) (s : St) (h : run init ls = some s) (w : Nat) (m : Msg)
    (hw : w < s.nW) (hg : s.status w = .got m) : m.hbh = s.hbhOf w ∧ m ∈ s.emitted :=
  (inv_run ls inv_init h).got_ok w m hw hg

/-- **C11, delivery.** In a run where ids are fresh and the peer answers each started request at most once and sends
nothing else (`polite`: the causality assumption of the quantifier spelled out): whatever the interleaving, once the reader has finished processing (nothing left on the wire,
nothing in its hands), every answer the peer emitted sits in the future of the request with that very id. -/
theorem C11_delivery (ls : List Label) (s : St) (hs : Hist) (hp : politeRun init {} ls)
    (h : runP init {} ls = some (s, hs)) (hw : s.wire = []) (hr : s.reader = .running)
    (m : Msg) (hm : m ∈ s.emitted) : ∃ w, w < s.nW ∧ s.hbhOf w = m.hbh ∧ s.status w = .got m := by
  have hi := inv2_run ls inv2_init hp h
  rcases hi.k_where m hm with h1 | h2 | ⟨w, h3⟩ | h4
  · rw [hw] at h1; cases h1
  · rw [hr] at h2; cases h2
  · rw [hr] at h3; cases h3
  · exact h4

/-- non-vacuity: the eager-answer schedule (answer decoded and removed before `sendReturn`) is a polite run -/
example : politeRun init {} [.sendBegin 7, .write, .peerEmit (.msg ⟨7, 0⟩), .readerDecode, .readerRemove,
    .write, .readerDeliver, .sendReturn] ∧
    ∃ s hs, runP init {} [.sendBegin 7, .write, .peerEmit (.msg ⟨7, 0⟩), .readerDecode, .readerRemove,
      .write, .readerDeliver, .sendReturn] = some (s, hs) ∧ s.wire = [] ∧ s.reader = .running ∧ s.status 0 = .got ⟨7, 0⟩ := by
  refine ⟨by simp [politeRun, polite, step, init, upd, Hist.step], _, _, rfl, by decide, by decide, by decide⟩


/-- **C11, at most once.** In such a run no answer is delivered to more than one future -/
theorem C11_once (ls : List Label) (s : St) (hs : Hist) (hp : politeRun init {} ls)
    (h : runP init {} ls = some (s, hs)) (w w' : Nat) (m : Msg) (hw : w < s.nW) (hw' : w' < s.nW)
    (hg : s.status w = .got m) (hg' : s.status w' = .got m) : w = w' := by
  have hi := inv2_run ls inv2_init hp h
  have h1 := (hi.base.got_ok w m hw hg).1
  have h2 := (hi.base.got_ok w' m hw' hg').1
  exact hi.k_uniq w w' hw hw' (by rw [← h1, ← h2])

/-- **how answer bytes are segmented does not matter.** The items of the transition system above are what the stream
reader extracts from the peer's octets; on any script that delivers a concatenation of acceptable answer frames -
split anywhere, with `Pending` anywhere - the reader sees exactly those answers in order, so every statement above holds
for every segmentation of the same octets. (`itemsOf_frames` in `Dia/EndToEnd.lean`, from `C06_read_all`.) -/
theorem C11_segmentation_irrelevant (cfg : Dia.Cfg) (dict : Dia.Lookup) (frames : List Dia.Bytes) (msgs : List Dia.Msg)
    (evs evs2 : List Dia.REv) (more : Dia.Bytes) (hl : frames.length = msgs.length)
    (hacc : ∀ i (h1 : i < frames.length) (h2 : i < msgs.length), Dia.Accepts cfg dict frames[i] msgs[i])
    (hne : Dia.noEmpty evs) (hne2 : Dia.noEmpty evs2)
    (hflat : Dia.flat evs = frames.flatten ++ more) (hflat2 : Dia.flat evs2 = frames.flatten ++ more) :
    Dia.itemsOf cfg dict frames.length evs = msgs.map Dia.Msg.item ∧
    Dia.itemsOf cfg dict frames.length evs = Dia.itemsOf cfg dict frames.length evs2 := by
  have h1 := Dia.itemsOf_frames cfg dict frames msgs evs more hl hacc hne hflat
  have h2 := Dia.itemsOf_frames cfg dict frames msgs evs2 more hl hacc hne2 hflat2
  exact ⟨h1, by rw [h1, h2]⟩

/-- **server and client put together (octets).** What the server's per-connection loop writes - reading acceptable
requests in any segmentation, answering with the handler's (consistent, typed, at most 1 MiB) answers over a stream that takes
octets in arbitrary pieces - is, for a client reading those octets in any pieces, exactly the handler's answers in order; and
the handler was called with exactly the requests. (`Dia/EndToEnd.lean`: C08_all_good, C02_roundtrip and C06_read_all composed.) -/
theorem C11_server_to_client (cfg : Dia.Cfg) (hf : cfg.tables.Fit) (dict : Dia.Lookup) (frames : List Dia.Bytes)
    (reqs answers : List Dia.Msg) (evs : List Dia.REv) (w : List Dia.WEv) (evsC : List Dia.REv) (more : Dia.Bytes)
    (hl1 : frames.length = reqs.length) (hl2 : answers.length = reqs.length)
    (hacc : ∀ i (h1 : i < frames.length) (h2 : i < reqs.length), Dia.Accepts cfg dict frames[i] reqs[i])
    (hans : ∀ a ∈ answers, a.Good ∧ a.HeaderOk cfg.tables ∧ Dia.TypedList dict a.avps ∧ a.length ≤ 1048576 ∧
      Dia.depthList a.avps ≤ cfg.limit)
    (hne : Dia.noEmpty evs) (hflat : Dia.flat evs = frames.flatten) (hw : Dia.neverFails w)
    (hneC : Dia.noEmpty evsC)
    (hflatC : Dia.flat evsC = (Dia.serve cfg dict (answers.map .ok) evs w).written ++ more) :
    (Dia.serve cfg dict (answers.map .ok) evs w).calls = reqs ∧
    Dia.itemsOf cfg dict answers.length evsC = answers.map Dia.Msg.item :=
  Dia.server_to_client cfg hf dict frames reqs answers evs w evsC more hl1 hl2 hacc hans hne hflat hw hneC hflatC

/-- **end to end.** ... and in any polite run of the client whose peer is that server - the messages the peer emitted include
what the stream carries - once the reader has nothing left to process, every answer the handler gave sits in the future of the
request with that answer's hop-by-hop id: whatever the segmentation on either side and whatever the interleaving of the
client's sender and reader. -/
theorem C11_end_to_end (cfg : Dia.Cfg) (hf : cfg.tables.Fit) (dict : Dia.Lookup) (frames : List Dia.Bytes)
    (reqs answers : List Dia.Msg) (evs : List Dia.REv) (w : List Dia.WEv) (evsC : List Dia.REv) (more : Dia.Bytes)
    (hl1 : frames.length = reqs.length) (hl2 : answers.length = reqs.length)
    (hacc : ∀ i (h1 : i < frames.length) (h2 : i < reqs.length), Dia.Accepts cfg dict frames[i] reqs[i])
    (hans : ∀ a ∈ answers, a.Good ∧ a.HeaderOk cfg.tables ∧ Dia.TypedList dict a.avps ∧ a.length ≤ 1048576 ∧
      Dia.depthList a.avps ≤ cfg.limit)
    (hne : Dia.noEmpty evs) (hflat : Dia.flat evs = frames.flatten) (hw : Dia.neverFails w)
    (hneC : Dia.noEmpty evsC)
    (hflatC : Dia.flat evsC = (Dia.serve cfg dict (answers.map .ok) evs w).written ++ more)
    (ls : List Label) (s : St) (hs : Hist) (hp : politeRun init {} ls) (h : runP init {} ls = some (s, hs))
    (hemit : ∀ m, Item.msg m ∈ Dia.itemsOf cfg dict answers.length evsC → m ∈ s.emitted)
    (hwire : s.wire = []) (hr : s.reader = .running) :
    ∀ a ∈ answers, ∃ wt, wt < s.nW ∧ s.hbhOf wt = a.hbh.toNat ∧ s.status wt = .got ⟨a.hbh.toNat, a.e2e.toNat⟩ := by
  intro a ha
  have hitems := (C11_server_to_client cfg hf dict frames reqs answers evs w evsC more hl1 hl2 hacc hans hne hflat hw
    hneC hflatC).2
  have hmem : Item.msg ⟨a.hbh.toNat, a.e2e.toNat⟩ ∈ Dia.itemsOf cfg dict answers.length evsC := by
    rw [hitems]
    exact List.mem_map.mpr ⟨a, ha, rfl⟩
  exact C11_delivery ls s hs hp h hwire hr ⟨a.hbh.toNat, a.e2e.toNat⟩ (hemit _ hmem)

/-- non-vacuity of the hypotheses about the server side: the header-only request `exFrame` of `Dia/CodecThm.lean`, answered by a
message of the same shape, read in two pieces, written one octet at a time - the client reader gets exactly that answer -/
example : Dia.itemsOf Dia.exCfg Dia.exDictNone 1
    [.data ((Dia.serve Dia.exCfg Dia.exDictNone [.ok Dia.exFrameMsg] [.data (Dia.exFrame.take 7), .pending, .data (Dia.exFrame.drop 7)]
      [.accept 1, .pending, .accept 1]).written)] = [Dia.exFrameMsg.item] := by
  have hacc := Dia.accepts_one Dia.exFrame_accepts
  have hne : Dia.noEmpty [.data (Dia.exFrame.take 7), .pending, .data (Dia.exFrame.drop 7)] := by
    simp [Dia.noEmpty, Dia.exFrame]
  have hflat : Dia.flat [.data (Dia.exFrame.take 7), .pending, .data (Dia.exFrame.drop 7)] = [Dia.exFrame].flatten := by
    decide
  have hw : Dia.neverFails [.accept 1, .pending, .accept 1] := by
    intro e he; simp at he; rcases he with rfl | rfl | rfl <;> simp [Dia.WEv.good]
  -- the server writes the frame back (`C08_all_good`), so the client's one read event is not empty
  have hwritten := (Dia.C08_all_good Dia.exCfg Dia.exDictNone [Dia.exFrame] [Dia.exFrameMsg] [Dia.exFrameMsg] _ _ rfl rfl hacc
    (fun a ha => by simp at ha; subst ha; rw [Dia.exFrameMsg_enc]) hne hflat hw).2.1
  have hneC : Dia.noEmpty [.data (Dia.serve Dia.exCfg Dia.exDictNone [.ok Dia.exFrameMsg]
      [.data (Dia.exFrame.take 7), .pending, .data (Dia.exFrame.drop 7)] [.accept 1, .pending, .accept 1]).written] := by
    simp only [List.map_cons, List.map_nil] at hwritten
    rw [hwritten]; simp [Dia.noEmpty, Dia.exFrameMsg_enc, Dia.exFrame]
  simpa using (C11_server_to_client Dia.exCfg Dia.defaultTables_fit Dia.exDictNone [Dia.exFrame] [Dia.exFrameMsg]
    [Dia.exFrameMsg] _ _ _ [] rfl rfl hacc
    (fun a ha => by
      simp at ha; subst ha
      exact ⟨⟨trivial, trivial, rfl⟩, ⟨by decide, by decide⟩, trivial, by decide, by decide⟩)
    hne hflat hw hneC (by simp [Dia.flat])).2

end Dia.Cl

/-! ## One client object, several connections
`Dia/ClientMulti.lean`: the connections of one `DiameterClient` share the table of waiting requests. -/
namespace Dia.Cm
open Dia.Cl (upd)

/-- **C11, safety, for a client with any number of connections, every interleaving of their readers, every peer.**
Whatever a response future holds is a message some peer emitted, and its hop-by-hop identifier is the identifier of that
future's own request - on whichever connection the answer arrived. -/
theorem C11_multi_safety (ls : List Label) (s : St) (h : run init ls = some s) (w : Nat) (m : Cl.Msg)
    (hw : w < s.nW) (hg : s.status w = .got m) : m.hbh = s.hbhOf w ∧ m ∈ s.emitted :=
  (inv_run ls inv_init h).got_ok w m hw hg

/-- two readers never hold the same waiter: an answer is handed to a future by at most one connection's reader -/
theorem C11_multi_one_deliverer (ls : List Label) (s : St) (h : run init ls = some s) (c c' : Nat) (m m' : Cl.Msg) (w : Nat)
    (h1 : s.reader c = .removed m w) (h2 : s.reader c' = .removed m' w) : c = c' :=
  (inv_run ls inv_init h).rem_uniq c c' m m' w h1 h2

/-- **the single-connection model is the one-connection slice of this one**: every run of `Dia.Cl` is, label for label,
a run of `Dia.Cm` after one `connect`, ending in the corresponding state - so `C11_safety`, `C11_delivery`, `C11_once`
and the C12 theorems of `Dia.Cl` are statements about runs of this model too. -/
theorem C11_single_is_slice (ls : List Cl.Label) (s' : Cl.St) (h : Cl.run Cl.init ls = some s') :
    run init (.connect :: ls.map liftL) = some (lift s') ∧ (lift s').nC = 1 ∧
    (lift s').status = s'.status ∧ (lift s').hbhOf = s'.hbhOf ∧ (lift s').reader 0 = s'.reader :=
  ⟨embed ls s' h, rfl, rfl, rfl, rfl⟩

/-- **C11, delivery, for a client with any number of connections.** In a run where ids are fresh and the peers answer each
started request at most once - on *whichever* connection they like, the table is shared - and send nothing else: whatever the
interleaving of the sender and the readers of all the connections, once every reader has finished processing (nothing left on
any wire, nothing in any reader's hands) every answer that was emitted sits in the future of the request with that very id.
(A 17-clause inductive invariant over polite runs, `Dia/ClientMultiPolite.lean`.) -/
theorem C11_multi_delivery (ls : List Label) (s : St) (hs : Hist) (hp : politeRun init {} ls)
    (h : runP init {} ls = some (s, hs)) (hw : ∀ c, s.wire c = []) (hr : ∀ c, s.reader c = .running)
    (m : Cl.Msg) (hm : m ∈ s.emitted) : ∃ w, w < s.nW ∧ s.hbhOf w = m.hbh ∧ s.status w = .got m := by
  have hi := inv2_run ls inv2_init hp h
  rcases hi.k_where m hm with ⟨c, h1⟩ | ⟨c, h2⟩ | ⟨c, w, h3⟩ | h4
  · rw [hw c] at h1; cases h1
  · rw [hr c] at h2; cases h2
  · rw [hr c] at h3; cases h3
  · exact h4

/-- ... and no answer is delivered to more than one future, whichever connections the answers arrived on -/
theorem C11_multi_once (ls : List Label) (s : St) (hs : Hist) (hp : politeRun init {} ls)
    (h : runP init {} ls = some (s, hs)) (w w' : Nat) (m : Cl.Msg) (hw : w < s.nW) (hw' : w' < s.nW)
    (hg : s.status w = .got m) (hg' : s.status w' = .got m) : w = w' := by
  have hi := inv2_run ls inv2_init hp h
  have h1 := (hi.base.got_ok w m hw hg).1
  have h2 := (hi.base.got_ok w' m hw' hg').1
  exact hi.k_uniq w w' hw hw' (by rw [← h1, ← h2])

/-- non-vacuity of the polite-run hypotheses: the answer to a request written on connection 0 arrives on connection 1 -/
example : politeRun init {} [.connect, .sendBegin 7, .write, .sendReturn, .connect, .peerEmit 1 (.msg ⟨7, 3⟩),
    .readerDecode 1, .readerRemove 1, .readerDeliver 1] ∧
    ∃ s hs, runP init {} [.connect, .sendBegin 7, .write, .sendReturn, .connect, .peerEmit 1 (.msg ⟨7, 3⟩),
      .readerDecode 1, .readerRemove 1, .readerDeliver 1] = some (s, hs) ∧ s.status 0 = .got ⟨7, 3⟩ := by
  refine ⟨by simp [politeRun, polite, step, init, upd, Hist.step], _, _, rfl, by decide⟩

/-- non-vacuity: the answer to a request written on connection 0 arrives on connection 1 (the table is shared) -/
example : ∃ s, run init [.connect, .sendBegin 7, .write, .sendReturn, .connect, .peerEmit 1 (.msg ⟨7, 3⟩),
    .readerDecode 1, .readerRemove 1, .readerDeliver 1] = some s ∧ s.status 0 = .got ⟨7, 3⟩ := by
  refine ⟨_, rfl, ?_⟩; decide

/-- **end to end with several connections.** Each connection `c` of one client object may be served by a server loop of its own
(`frames c`, `answers c`, its own segmentations in both directions). In any polite run of the client in which the peers emitted
what those streams carry, once every reader has nothing left to process, every answer any of the handlers gave - on whichever
connection - sits in the future of the request with that answer's hop-by-hop id. -/
theorem C11_multi_end_to_end (cfg : Dia.Cfg) (hf : cfg.tables.Fit) (dict : Dia.Lookup) (conns : List Nat)
    (frames : Nat → List Dia.Bytes) (reqs answers : Nat → List Dia.Msg) (evs : Nat → List Dia.REv) (w : Nat → List Dia.WEv)
    (evsC : Nat → List Dia.REv) (more : Nat → Dia.Bytes)
    (hl1 : ∀ c ∈ conns, (frames c).length = (reqs c).length) (hl2 : ∀ c ∈ conns, (answers c).length = (reqs c).length)
    (hacc : ∀ c ∈ conns, ∀ i (h1 : i < (frames c).length) (h2 : i < (reqs c).length),
      Dia.Accepts cfg dict (frames c)[i] (reqs c)[i])
    (hans : ∀ c ∈ conns, ∀ a ∈ answers c, a.Good ∧ a.HeaderOk cfg.tables ∧ Dia.TypedList dict a.avps ∧ a.length ≤ 1048576 ∧
      Dia.depthList a.avps ≤ cfg.limit)
    (hne : ∀ c ∈ conns, Dia.noEmpty (evs c)) (hflat : ∀ c ∈ conns, Dia.flat (evs c) = (frames c).flatten)
    (hw : ∀ c ∈ conns, Dia.neverFails (w c)) (hneC : ∀ c ∈ conns, Dia.noEmpty (evsC c))
    (hflatC : ∀ c ∈ conns, Dia.flat (evsC c) = (Dia.serve cfg dict ((answers c).map .ok) (evs c) (w c)).written ++ more c)
    (ls : List Label) (s : St) (hs : Hist) (hp : politeRun init {} ls) (h : runP init {} ls = some (s, hs))
    (hemit : ∀ c ∈ conns, ∀ m, Cl.Item.msg m ∈ Dia.itemsOf cfg dict (answers c).length (evsC c) → m ∈ s.emitted)
    (hwire : ∀ c, s.wire c = []) (hr : ∀ c, s.reader c = .running) :
    ∀ c ∈ conns, ∀ a ∈ answers c,
      ∃ wt, wt < s.nW ∧ s.hbhOf wt = a.hbh.toNat ∧ s.status wt = .got ⟨a.hbh.toNat, a.e2e.toNat⟩ := by
  intro c hc a ha
  have hitems := (Cl.C11_server_to_client cfg hf dict (frames c) (reqs c) (answers c) (evs c) (w c) (evsC c) (more c)
    (hl1 c hc) (hl2 c hc) (hacc c hc) (hans c hc) (hne c hc) (hflat c hc) (hw c hc) (hneC c hc) (hflatC c hc)).2
  have hmem : Cl.Item.msg ⟨a.hbh.toNat, a.e2e.toNat⟩ ∈ Dia.itemsOf cfg dict (answers c).length (evsC c) := by
    rw [hitems]
    exact List.mem_map.mpr ⟨a, ha, rfl⟩
  exact C11_multi_delivery ls s hs hp h hwire hr ⟨a.hbh.toNat, a.e2e.toNat⟩ (hemit c hc _ hmem)

end Dia.Cm
