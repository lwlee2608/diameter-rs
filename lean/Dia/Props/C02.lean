import Dia.Props.C01
import Dia.SpecTop
/-! # C02 - Encode then decode returns the same message. Property theorems only.
Equality is structural equality of `Msg`: header fields, AVP order, code, vendor id, flags, variant and value
(floats as bit patterns), stored lengths and paddings, recursively. -/
namespace Dia
open Spec

/-- the tables of the pinned commit fit (the run-time check `fitB` covers whatever tables are probed) -/
theorem defaultTables_fit : ({} : Tables).Fit := Tables.fit_of_fitB _ (by decide)

/-- **C02.** For every consistent, carriable message whose AVPs the dictionary types and whose groups nest no deeper
than the decoder's limit: encoding succeeds, and decoding the octets - for *every* leniency configuration of the
decoder - returns exactly the message. -/
theorem C02_roundtrip (cfg : Cfg) (hf : cfg.tables.Fit) (dict : Lookup) (m : Msg) (hg : m.Good)
    (hh : m.HeaderOk cfg.tables)
    (hty : TypedList dict m.avps) (h24 : m.length < 16777216) (hd : depthList m.avps ≤ cfg.limit) :
    m.enc.err = none ∧ decMsg cfg dict m.enc.bytes = .ok m := by
  have hw := encList_wire m.avps hg.wf hg.cons
  rw [Msg.enc_eq h24, Enc.ok, Enc.andThen_ok, (encList_ok m.avps hg.wf hg.cons).1]
  exact ⟨rfl, decMsg_wire hf hg hh hty h24 hd hw⟩

/-- ... in particular for every message a construction history inside C01's quantifier produces -/
theorem C02_history (cfg : Cfg) (hf : cfg.tables.Fit) (D : Dict) (ops : List Op) (hok : OpsOk cfg { dict := D } ops) :
    let m := (MState.run cfg { dict := D } ops).msg
    m.HeaderOk cfg.tables → TypedList D.lookup m.avps → m.length < 16777216 → depthList m.avps ≤ cfg.limit →
      m.enc.err = none ∧ decMsg cfg D.lookup m.enc.bytes = .ok m := by
  intro m hh hty h24 hd
  have hg := (C01_encode_exact cfg D ops hok h24).2.2
  exact C02_roundtrip cfg hf D.lookup m hg hh hty h24 hd

/-- in the operation machine: re-encoding and decoding a built message is the identity on it -/
theorem C02_reencode_fixpoint (cfg : Cfg) (hf : cfg.tables.Fit) (s : MState) (hg : s.msg.Good)
    (hh : s.msg.HeaderOk cfg.tables)
    (hty : TypedList s.dict.lookup s.msg.avps) (h24 : s.msg.length < 16777216)
    (hd : depthList s.msg.avps ≤ cfg.limit) :
    (s.step cfg .reencode).1.msg = s.msg ∧ (s.step cfg .reencode).2 = .ok := by
  obtain ⟨h1, h2⟩ := C02_roundtrip cfg hf s.dict.lookup s.msg hg hh hty h24 hd
  simp only [MState.step, h1, h2]
  exact ⟨trivial, trivial⟩

/-- **what is encoded is what an independent reader reads.** The octets produced for a consistent, typed message parse -
in the sense of the independent relation `Spec.Parses`, which does not mention the model - as exactly the content of
that message; by `C03_unique` as nothing else. Encoder and decoder therefore cannot share a consistent but wrong
convention: both are pinned to `Spec`. -/
theorem C02_encoding_parses (T : Tables) (dict : Lookup) (m : Msg) (hg : m.Good) (hh : m.HeaderOk T)
    (hty : TypedList dict m.avps)
    (h24 : m.length < 16777216) : m.enc = ⟨Spec.encode m.abs, none⟩ ∧ Parses T dict (Spec.encode m.abs) m.abs :=
  ⟨(hg.enc_spec h24).1, enc_parses T dict m hg hh hty h24⟩

/-! non-vacuity: a message with a vendor AVP and a group, under a dictionary that types them, meets every hypothesis -/
def exDict : Lookup := fun c v =>
  if c = 14 ∧ v = some 9 then .unsigned32 else if c = 9 ∧ v = none then .grouped else if c = 16 ∧ v = none then .utf8
  else .unknown
def exMsg : Msg :=
  (Msg.new 272 4 0x80 1 2).addAvp 14 (some 9) 0x40 (.unsigned32 5) |>.addAvp 9 none 0
    (.grouped [Avp.new 16 none 0 (.utf8 [0x61, 0x62, 0x63])])

example : exMsg.Good ∧ exMsg.HeaderOk {} ∧ TypedList exDict exMsg.avps ∧ exMsg.length < 16777216 ∧
    depthList exMsg.avps ≤ 32 := by
  -- the message is built by the construction API from well-formed values, so it is good (`Dia/HistoryThm.lean`)
  have hin : (Avp.new 16 none 0 (.utf8 [0x61, 0x62, 0x63])).Good :=
    Avp.new_good _ _ _ _ ⟨show utf8Valid _ = true by decide, trivial⟩ (by decide)
  have hg : exMsg.Good :=
    Msg.add_good (Msg.add_good (Msg.new_good ..) (Avp.new_good _ _ _ _ ⟨trivial, trivial⟩ (by decide)))
      (Avp.new_good _ _ _ _ ((Value.good_grouped _).mpr (by simpa using hin)) (by decide))
  -- and `exDict` gives each of its three AVPs the type of the value it carries
  exact ⟨hg, ⟨by decide, by decide⟩, ⟨⟨rfl, trivial⟩, ⟨rfl, ⟨rfl, trivial⟩, trivial⟩, trivial⟩, by decide, by decide⟩

end Dia
