import Dia.Enc
import Dia.History
import Dia.Props.C14
/-! # C16 - Building an AVP by name follows the dictionary; failure changes nothing. Property theorems only. -/
namespace Dia

/-- **C16, success.** For a name the dictionary contains, `from_name` yields exactly the AVP built from the explicit
numbers of the definition found: its code, its vendor id, the M flag iff the definition is mandatory (P clear), the V
bit iff there is a vendor id - hence the two encode identically. -/
theorem C16_from_name (D : Dict) (n : String) (v : Value) (d : Def) (h : D.getByName n = some d) :
    Avp.fromName D n v = some (Avp.new d.code d.vendor (if d.m then 0x40 else 0) v) ∧
    (Avp.new d.code d.vendor (if d.m then 0x40 else 0) v).code = d.code ∧
    (Avp.new d.code d.vendor (if d.m then 0x40 else 0) v).vendor = d.vendor ∧
    (∀ a, Avp.fromName D n v = some a → a.enc = (Avp.new d.code d.vendor (if d.m then 0x40 else 0) v).enc) := by
  have e : Avp.fromName D n v = some (Avp.new d.code d.vendor (if d.m then 0x40 else 0) v) := by
    unfold Avp.fromName; rw [h]; rfl
  refine ⟨e, rfl, rfl, ?_⟩
  intro a ha
  rw [e] at ha
  cases ha
  rfl

/-- the flags octet on the wire: V set exactly when the definition has a vendor id, M exactly when it is mandatory -/
theorem C16_flags (d : Def) (v : Value) :
    (Avp.new d.code d.vendor (if d.m then 0x40 else 0) v).enc.bytes.getD 4 0 =
      (if d.vendor.isSome then 0x80 else 0) ||| (if d.m then 0x40 else 0) ∨
    (Avp.new d.code d.vendor (if d.m then 0x40 else 0) v).enc.err ≠ none := by
  refine (Decidable.em _).imp_left fun he => ?_
  obtain ⟨h24, hv⟩ := Avp.enc_err_none he
  rw [Avp.new, Avp.enc_eq h24 hv, hdrBytes_flags]
  -- `Avp.new` reads M and P back out of the flags octet it is given
  have e : ∀ m : Bool, ((if m then 0x40 else 0 : UInt8) &&& 0x40 != 0) = m ∧
      ((if m then 0x40 else 0 : UInt8) &&& 0x20 != 0) = false := by decide
  rw [(e d.m).1, (e d.m).2]
  simp [flagsByte]

/-- which definition: one that is live in the dictionary and carries the name (C14); if only one definition carries
the name, it is that one -/
theorem C16_which (ops : List DOp) (n : String) (d : Def) (h : (runD ops).getByName n = some d) :
    d.name = n ∧ (runD ops).get d.code d.vendor = some d :=
  C14_by_name_live ops n d h

/-- **C16, failure.** Asking for a name the dictionary does not contain fails and leaves the message - its AVP list,
reported length and (therefore) its encoding - exactly as it was. -/
theorem C16_unknown (D : Dict) (m : Msg) (n : String) (v : Value) (h : D.getByName n = none) :
    Avp.fromName D n v = none ∧ m.addByName D n v = none := by
  unfold Msg.addByName Avp.fromName
  rw [h]
  exact ⟨rfl, rfl⟩

/-- in the operation machine: the failed call changes neither the message nor the dictionary (only the argument is
consumed) -/
theorem C16_unknown_step (cfg : Cfg) (s : MState) (n : String) (h : s.dict.getByName n = none) :
    (s.step cfg (.addByName n)).1.msg = s.msg ∧ (s.step cfg (.addByName n)).1.dict = s.dict ∧
    (s.step cfg (.addByName n)).2 ≠ .ok := by
  simp only [MState.step]
  split
  · rename_i v rest heq
    rw [(C16_unknown s.dict s.msg n v h).2]
    exact ⟨rfl, rfl, by simp⟩
  · exact ⟨rfl, rfl, by simp⟩

/-- and a successful call appends exactly that AVP, updating the reported length by its padded size -/
theorem C16_known_step (D : Dict) (m m' : Msg) (n : String) (v : Value) (d : Def) (h : D.getByName n = some d)
    (hm : m.addByName D n v = some m') :
    m'.avps = m.avps ++ [Avp.new d.code d.vendor (if d.m then 0x40 else 0) v] ∧
    m'.length = m.length + (Avp.new d.code d.vendor (if d.m then 0x40 else 0) v).padded := by
  unfold Msg.addByName at hm
  rw [(C16_from_name D n v d h).1] at hm
  simp only [Option.map_some, Option.some.injEq] at hm
  subst hm
  simp only [Msg.add, Avp.padded]
  exact ⟨trivial, by omega⟩

end Dia
