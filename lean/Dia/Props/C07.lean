import Dia.StreamSeq
/-! # C07 - Hostile frame lengths on a stream are refused cheaply and safely. Property theorems only. -/
namespace Dia

/-- **C07.** Whatever script the peer produces: the stream reader never reaches a panic site; once the 4-octet
prefix is read, an announced length above 1 MiB or below a Diameter header is refused having consumed exactly
those 4 octets, and in no case are more than max(announced, 4) octets taken; if the prefix itself cannot be read
the call fails having taken at most 4 octets. -/
theorem C07_hostile (cfg : Cfg) (dict : Lookup) (evs : List REv) :
    (Codec.decode cfg dict evs).out ≠ .panic ∧
    (∀ p evs1, readExact 4 evs = (.ok p, evs1) →
      (fromBe (p.drop 1) > 1048576 →
        (Codec.decode cfg dict evs).out = .err .tooLarge ∧ (Codec.decode cfg dict evs).consumed = 4) ∧
      (fromBe (p.drop 1) < 20 →
        (Codec.decode cfg dict evs).out = .err .tooShort ∧ (Codec.decode cfg dict evs).consumed = 4) ∧
      (Codec.decode cfg dict evs).consumed ≤ max (fromBe (p.drop 1)) 4) ∧
    (∀ o evs1, readExact 4 evs = (o, evs1) → (∀ p, o ≠ .ok p) →
      (∃ e, (Codec.decode cfg dict evs).out = .err e) ∧ (Codec.decode cfg dict evs).consumed ≤ 4) :=
  Codec.decode_hostile cfg dict evs

/-- the same in terms of the octets delivered: a well-behaved script that starts with a version octet and the
24-bit announcement `L`, followed by any amount of further data -/
theorem C07_announced (cfg : Cfg) (dict : Lookup) (evs : List REv) (b0 : UInt8) (L : Nat) (tail : Bytes)
    (hL : L < 16777216) (hne : noEmpty evs) (hflat : flat evs = b0 :: be24 L ++ tail) :
    (Codec.decode cfg dict evs).out ≠ .panic ∧
    (L > 1048576 → (Codec.decode cfg dict evs).out = .err .tooLarge ∧ (Codec.decode cfg dict evs).consumed = 4) ∧
    (L < 20 → (Codec.decode cfg dict evs).out = .err .tooShort ∧ (Codec.decode cfg dict evs).consumed = 4) ∧
    (Codec.decode cfg dict evs).consumed ≤ max L 4 := by
  obtain ⟨h1, h2, _⟩ := Codec.decode_hostile cfg dict evs
  obtain ⟨evs1, hr, _, _⟩ := readExact_append evs (b0 :: be24 L) tail hne hflat
  have h := h2 _ _ hr
  rw [show fromBe ((b0 :: be24 L).drop 1) = L from fromBe_be24 L hL] at h
  exact ⟨h1, h⟩

/-- the other side of the limit: an announcement from a bare header (20) up to and including exactly 1 MiB is *not*
refused on size grounds, and when the announced octets are there exactly `L` of them are taken - the limit is 1 MiB,
not "about" 1 MiB -/
theorem C07_within_limit (cfg : Cfg) (dict : Lookup) (evs : List REv) (b0 : UInt8) (L : Nat) (tail : Bytes)
    (hlo : 20 ≤ L) (hhi : L ≤ 1048576) (hne : noEmpty evs) (hflat : flat evs = b0 :: be24 L ++ tail)
    (hall : L ≤ (flat evs).length) :
    (Codec.decode cfg dict evs).consumed = L ∧
    (Codec.decode cfg dict evs).out ≠ .err .tooLarge ∧ (Codec.decode cfg dict evs).out ≠ .err .tooShort ∧
    (Codec.decode cfg dict evs).out ≠ .err .eof ∧ (Codec.decode cfg dict evs).out ≠ .err .io := by
  -- the first `L` octets are a frame in the sense of `Framed`
  have hlen : ((flat evs).take L).length = L := List.length_take_of_le hall
  have hf : Framed ((flat evs).take L) := by
    refine ⟨?_, by omega, by omega⟩
    rw [hlen, declaredLen, List.take_take, Nat.min_eq_left (by omega), hflat]
    exact fromBe_be24 L (by omega)
  obtain ⟨evs', hd, _, _⟩ := Codec.decode_framed cfg dict evs _ _ hne (List.take_append_drop L _).symm hf
  rw [hd, hlen]
  refine ⟨rfl, ?_⟩
  cases decMsg cfg dict ((flat evs).take L) <;> simp [COut.ofDec]

/-- **later frames are guarded like the first.** Behind any number of well-framed frames on the same stream - accepted by the
message decoder or refused by it - an announcement above 1 MiB or below a Diameter header is refused by the very next call,
which takes exactly its 4 octets; the calls before it each took exactly their own frame. -/
theorem C07_after_frames (cfg : Cfg) (dict : Lookup) (frames : List Bytes) (evs : List REv) (b0 : UInt8) (L : Nat)
    (tail : Bytes) (hfr : ∀ f ∈ frames, Framed f) (hL : L < 16777216) (hbad : L > 1048576 ∨ L < 20)
    (hne : noEmpty evs) (hflat : flat evs = frames.flatten ++ (b0 :: be24 L ++ tail)) :
    decodeSeqAll cfg dict (frames.length + 1) evs =
      frames.map (fun f => (COut.ofDec (decMsg cfg dict f), f.length)) ++
        [(.err (if L > 1048576 then .tooLarge else .tooShort), 4)] := by
  obtain ⟨evs', h, hf', hne'⟩ := decodeSeqAll_prefix cfg dict frames evs (b0 :: be24 L ++ tail) 1 hfr hne hflat
  rw [h]
  obtain ⟨_, g1, g2, _⟩ := C07_announced cfg dict evs' b0 L tail hL hne' hf'
  rcases hbad with hb | hb
  · simp [decodeSeqAll, g1 hb, hb]
  · simp [decodeSeqAll, g2 hb, show ¬ L > 1048576 by omega]

/-! non-vacuity: the boundary values themselves -/
example : (20 : Nat) ≤ 1048576 ∧ (1048576 : Nat) ≤ 1048576 ∧ ¬ ((1048577 : Nat) ≤ 1048576) := by decide

end Dia
