import Dia.SpecEq
import Dia.HistoryThm
import Dia.Top
/-! # C01 - Encoded bytes are exactly the RFC 6733 wire format
Property theorems only. Histories are lists of `Op` (one per public API call, `Dia/History.lean`); the independent
encoder is `Spec.encode` (`Dia/Spec.lean`, written from the RFC text). -/
namespace Dia
open Spec

def Item.Good : Item → Prop
  | .val v => v.Good
  | .avp a => a.Good

def StackGood : List Item → Prop
  | [] => True
  | it :: r => it.Good ∧ StackGood r

/-- every message and every value the history has built so far is consistent (stored lengths and paddings are the
ones the data imply, the running message length is the sum) and carriable by the wire -/
structure MState.Good (s : MState) : Prop where
  msg : s.msg.Good
  stack : StackGood s.stack

/-- C01's quantifier, operation by operation: values are ones the wire can carry (Time in range, E.164 of 1..15
octets, text is UTF-8 - `Value.WF`), no AVP reaches 2^24 octets, and frames handed to `decode` are frames of their
declared size that are accepted without a fixed-size length lie (finding F1; vacuous for a strict decoder) -/
def OpOk (cfg : Cfg) (s : MState) : Op → Prop
  | .val v => v.Good
  | .grpAddAvp _ vendor _ => ∀ v rest, s.stack = .val v :: rest → hdrLen vendor + v.len < 16777216
  | .avpNew _ vendor _ => ∀ v rest, s.stack = .val v :: rest → hdrLen vendor + v.len < 16777216
  | .addAvp _ vendor _ => ∀ v rest, s.stack = .val v :: rest → hdrLen vendor + v.len < 16777216
  | .avpName n => ∀ v rest d, s.stack = .val v :: rest → s.dict.getByName n = some d →
      hdrLen d.vendor + v.len < 16777216
  | .addByName n => ∀ v rest d, s.stack = .val v :: rest → s.dict.getByName n = some d →
      hdrLen d.vendor + v.len < 16777216
  | .decode bs => ∀ m, decMsg cfg s.dict.lookup bs = .ok m → bs.length = m.length ∧ NoLieList m.avps
  | .reencode => ∀ m, decMsg cfg s.dict.lookup s.msg.enc.bytes = .ok m →
      s.msg.enc.bytes.length = m.length ∧ NoLieList m.avps
  | _ => True

/-- the restriction along a whole history -/
def OpsOk (cfg : Cfg) : MState → List Op → Prop
  | _, [] => True
  | s, op :: ops => OpOk cfg s op ∧ OpsOk cfg (s.step cfg op).1 ops

/-- every API call preserves the invariant -/
theorem C01_step (cfg : Cfg) (s : MState) (op : Op) (hs : s.Good) (hop : OpOk cfg s op) :
    (s.step cfg op).1.Good := by
  obtain ⟨D, msg, stack⟩ := s
  obtain ⟨hm, hst⟩ := hs
  -- wherever the operation does not apply to the stack, or the API call fails, message and remaining stack are untouched
  cases op <;> simp only [MState.step]
  case new => split <;> first | exact ⟨Msg.new_good .., hst⟩ | exact ⟨hm, hst⟩
  case val v => exact ⟨hm, hop, hst⟩
  case grpNew => exact ⟨hm, ⟨trivial, trivial⟩, hst⟩
  case grpAddAvp code vendor flags =>
    split
    · exact ⟨hm, Value.good_snoc hst.2.1 (Avp.new_good code vendor flags _ hst.1 (hop _ _ rfl)), hst.2.2⟩
    · exact ⟨hm, hst⟩
  case grpAdd =>
    split
    · exact ⟨hm, Value.good_snoc hst.2.1 hst.1, hst.2.2⟩
    · exact ⟨hm, hst⟩
  case avpNew code vendor flags =>
    split
    · exact ⟨hm, Avp.new_good code vendor flags _ hst.1 (hop _ _ rfl), hst.2⟩
    · exact ⟨hm, hst⟩
  case avpName n =>
    split
    · split
      · rename_i a hfn
        exact ⟨hm, Avp.fromName_good hfn hst.1 fun d hd => hop _ _ d rfl hd, hst.2⟩
      · exact ⟨hm, hst.2⟩
    · exact ⟨hm, hst⟩
  case add =>
    split
    · exact ⟨Msg.add_good hm hst.1, hst.2⟩
    · exact ⟨hm, hst⟩
  case addAvp code vendor flags =>
    split
    · exact ⟨Msg.add_good hm (Avp.new_good code vendor flags _ hst.1 (hop _ _ rfl)), hst.2⟩
    · exact ⟨hm, hst⟩
  case addByName n =>
    split
    · split
      · rename_i m' hfn
        obtain ⟨a, ha, rfl⟩ := Option.map_eq_some_iff.mp hfn
        exact ⟨Msg.add_good hm (Avp.fromName_good ha hst.1 fun d hd => hop _ _ d rfl hd), hst.2⟩
      · exact ⟨hm, hst.2⟩
    · exact ⟨hm, hst⟩
  case decode bs =>
    split
    · rename_i m' hd
      obtain ⟨h1, h2⟩ := hop m' hd
      exact ⟨(decMsg_sound hd h1 h2).1, hst⟩
    · exact ⟨hm, hst⟩
  case grpFromAvp i =>
    split
    · rename_i a hi
      split
      · rename_i ms hv
        exact ⟨hm, hv ▸ Avp.good_value (Msg.Good.mem hm (List.mem_of_getElem? hi)), hst⟩
      · exact ⟨hm, hst⟩
    · exact ⟨hm, hst⟩
  case avpFromMsg i =>
    split
    · rename_i a hi
      exact ⟨hm, Msg.Good.mem hm (List.mem_of_getElem? hi), hst⟩
    · exact ⟨hm, hst⟩
  case reencode =>
    split
    · exact ⟨hm, hst⟩
    · split
      · rename_i m' hd
        obtain ⟨h1, h2⟩ := hop m' hd
        exact ⟨(decMsg_sound hd h1 h2).1, hst⟩
      · exact ⟨hm, hst⟩

/-- ... hence every state a history reaches satisfies it (induction over the operation list, no bound) -/
theorem C01_run (cfg : Cfg) : ∀ (ops : List Op) (s : MState), s.Good → OpsOk cfg s ops → (s.run cfg ops).Good
  | [], _, hs, _ => hs
  | op :: ops, s, hs, hok => C01_run cfg ops _ (C01_step cfg s op hs hok.1) hok.2

/-- **C01.** For every construction history inside the quantifier, the message that results encodes without
error to exactly the octets the independent RFC 6733 encoder produces for its content, and the length it reports
about itself is the number of octets produced (which the 24-bit header field carries exactly). -/
theorem C01_encode_exact (cfg : Cfg) (D : Dict) (ops : List Op)
    (hok : OpsOk cfg { dict := D } ops) :
    let m := (MState.run cfg { dict := D } ops).msg
    m.length < 16777216 →
      m.enc = ⟨Spec.encode m.abs, none⟩ ∧ (Spec.encode m.abs).length = m.length ∧ m.Good := by
  intro m h24
  have hg : (MState.run cfg { dict := D } ops).Good :=
    C01_run cfg ops _ ⟨Msg.new_good _ _ _ _ _, trivial⟩ hok
  have := hg.msg.enc_spec h24
  exact ⟨this.1, this.2, hg.msg⟩

/-- sanity corollaries about the independent encoder itself (what the statement above is measured against):
20-octet header first, octets 1..3 = total length, V bit set exactly when a vendor id is present -/
theorem C01_spec_layout (s : SMsg) :
    (Spec.encode s).length = 20 + (encodeAvps s.avps).length ∧
    (Spec.encode s).take 4 = s.version :: u24be (20 + (encodeAvps s.avps).length) :=
  ⟨Spec.encode_length s, by simp [Spec.encode, u24be]⟩

theorem C01_spec_vbit (code : UInt32) (vendor : Option UInt32) (m p : Bool) (d : SData) :
    ((SAvp.mk code vendor m p d).encode.getD 4 0 &&& 0x80 != 0) = vendor.isSome := by
  rw [SAvp.encode_eq, hdrBytes_flags]
  exact (flags_bits _ vendor.isSome m p (flagsByte_fix vendor m p)).1

/-- every AVP occupies a multiple of four octets (so every AVP starts 4-aligned) and its padding is zero -/
theorem C01_spec_aligned (a : SAvp) : a.encode.length % 4 = 0 := by
  cases a with
  | mk code vendor m p d =>
    rw [SAvp.encode_length]
    cases vendor <;> simp only [hdrSize, padTo4] <;> omega

/-! non-vacuity: a concrete history with a vendor AVP and a group is inside the quantifier -/
example : OpsOk ⟨fun _ _ => false, 32, {}⟩ {}
    [.new 272 4 0x80 1 2, .val (.unsigned32 5), .addAvp 7 (some 9) 0x40, .grpNew, .val (.utf8 [0x61]),
     .grpAddAvp 3 none 0, .addAvp 8 none 0] :=
  -- one obligation per operation: a value pushed is good, an AVP built from the value on top of the stack is short
  ⟨trivial, ⟨trivial, trivial⟩, fun _ _ h => by cases h; decide, trivial, ⟨show utf8Valid _ = true by decide, trivial⟩,
    fun _ _ h => by cases h; decide, fun _ _ h => by cases h; decide, trivial⟩

end Dia
