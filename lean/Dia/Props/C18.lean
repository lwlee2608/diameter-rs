import Dia.Dump
import Dia.SpecTop
/-! # C18 - AVP lookup and typed accessors agree with the message content. Property theorems only. -/
namespace Dia
open Spec

/-- `get_avps()` is the stored list; `add` appends at the end, so built messages keep insertion (= wire) order -/
theorem C18_add_appends (m : Msg) (a : Avp) : (m.add a).avps = m.avps ++ [a] := rfl

/-- `get_avp(code)`: the first AVP with that code in list order; nothing exactly when there is none -/
theorem C18_get_first (m : Msg) (c : UInt32) :
    (m.getAvp c = none ↔ ∀ a ∈ m.avps, a.code ≠ c) ∧
    (∀ a, m.getAvp c = some a ↔
      a.code = c ∧ ∃ pre post, m.avps = pre ++ a :: post ∧ ∀ b ∈ pre, b.code ≠ c) := by
  constructor
  · unfold Msg.getAvp
    simp
  · intro a
    unfold Msg.getAvp
    rw [List.find?_eq_some_iff_append]
    simp

/-- lookup along a history: after `add` (on a built *or* decoded message) the lookup still answers with the earlier
first occurrence if there was one, and with the appended AVP only when the code was absent before -/
theorem C18_get_after_add (m : Msg) (a : Avp) (c : UInt32) :
    (m.add a).getAvp c = (match m.getAvp c with
      | some x => some x
      | none => if a.code = c then some a else none) := by
  unfold Msg.getAvp
  rw [C18_add_appends, List.find?_append, List.find?_singleton]
  cases List.find? (fun x => x.code == c) m.avps <;> simp

/-- the index the harness reports is the position of that first AVP -/
theorem C18_get_idx (m : Msg) (c : UInt32) (i : Nat) (h : m.getAvpIdx c = some i) :
    ∃ a, m.avps[i]? = some a ∧ m.getAvp c = some a := by
  unfold Msg.getAvpIdx at h
  unfold Msg.getAvp
  rw [List.findIdx?_eq_some_iff_getElem] at h
  obtain ⟨hi, hp, hlt⟩ := h
  refine ⟨m.avps[i], by simp [hi], ?_⟩
  rw [List.find?_eq_some_iff_getElem]
  exact ⟨hp, i, hi, rfl, fun j hj => by simpa using hlt j hj⟩

/-- each typed getter answers exactly when the AVP holds that data type ... -/
theorem C18_typed (a : Avp) (acc : Ty) : (a.getTyped acc).isSome ↔ tyOf a.value = acc := by
  unfold Avp.getTyped; simp_all

/-- ... and then with the stored value -/
theorem C18_typed_value (a : Avp) (acc : Ty) (x : Value) (h : a.getTyped acc = some x) : x = a.value := by
  unfold Avp.getTyped at h; simp_all

/-- of the 16 getters exactly one answers -/
theorem C18_typed_unique (a : Avp) : tyOf a.value ∈ allTys ∧ ∀ t, (a.getTyped t).isSome → t = tyOf a.value := by
  -- `allTys` lists every type but `unknown`, which is the type of no value
  have hall : ∀ t : Ty, t ≠ .unknown → t ∈ allTys := by
    intro t
    cases t <;> decide
  exact ⟨hall _ (tyOf_ne_unknown _), fun t h => ((C18_typed a t).mp h).symm⟩

/-- a group's member accessor returns its members, in order -/
theorem C18_group_members (a : Avp) (ms : List Avp) (h : a.value = .grouped ms) : a.groupMembers = some ms := by
  unfold Avp.groupMembers; rw [h]

/-- decoded messages list their AVPs in wire order: the body of the frame is, up to padding octets and reserved flag
bits, the concatenation of the RFC encodings of the returned AVPs in list order -/
theorem C18_decoded_order (cfg : Cfg) (dict : Lookup) (bs : Bytes) (m : Msg)
    (h : decMsg cfg dict bs = .ok m) (hlen : bs.length = m.length) (hnl : NoLieList m.avps) :
    ∃ hb body, bs = hb ++ body ∧ hb.length = 20 ∧ body.length = (maskList m.avps).length ∧
      applyMask body (maskList m.avps) = encodeAvps (absList m.avps) := by
  obtain ⟨hg, body, hbs, hw⟩ := decMsg_sound h hlen hnl
  refine ⟨_, body, hbs, m.hdrBytes_length, hw.len, ?_⟩
  have henc := hw.enc
  rw [encList_spec m.avps hg.wf hg.cons] at henc
  exact (Enc.mk.inj henc).1.symm

/-- the same against the independent reader: if the frame parses as `s`, the AVP list accessor of the decoded message
lists exactly `s`'s AVPs, in `s`'s (= wire) order -/
theorem C18_decoded_is_parsed (cfg : Cfg) (hf : cfg.tables.Fit) (dict : Lookup) (bs : Bytes) (m : Msg) (s : SMsg)
    (h : decMsg cfg dict bs = .ok m) (hlen : bs.length = m.length) (hnl : NoLieList m.avps)
    (hp : Parses cfg.tables dict bs s) : absList m.avps = s.avps := by
  have := parses_unique cfg.tables hf dict bs m.abs s (decMsg_parses cfg dict bs m h hlen hnl) hp
  rw [← this]; rfl

/-! non-vacuity: a message with a repeated code -/
example : (Msg.new 272 4 0 0 0 |>.addAvp 7 none 0 (.unsigned32 1) |>.addAvp 9 none 0 (.utf8 []) |>.addAvp 7 (some 3) 0
    (.unsigned32 2)).getAvpIdx 7 = some 0 := by decide

end Dia
