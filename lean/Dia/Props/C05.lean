import Dia.SpecEq
import Dia.Exec
import Dia.StreamSeq
/-! # C05 - Encoding never reports success for a frame it did not fully produce. Property theorems only.
`Msg.enc` is the stream of octets the encoder hands to the writer and the first internal error (where the encoder
stops); `encTo m k` runs it against a writer that accepts exactly `k` octets in total and then fails. -/
namespace Dia

/-- a writer with room for everything does not disturb the encoding -/
theorem C05_transparent (m : Msg) (k : Nat) (hk : m.enc.bytes.length ≤ k) :
    encTo m k = (m.enc.err.isNone, m.enc.bytes) := by
  unfold encTo; simp [hk]

/-- **C05, faults.** Success against a writer that dies after `k` octets means: no internal error, every octet of
the stream was accepted, and the writer had room for all of them. For every message and every `k`. -/
theorem C05_fault (m : Msg) (k : Nat) (h : (encTo m k).1 = true) :
    (encTo m k).2 = m.enc.bytes ∧ m.enc.err = none ∧ m.enc.bytes.length ≤ k := by
  by_cases hk : m.enc.bytes.length ≤ k
  · rw [C05_transparent m k hk] at h ⊢
    exact ⟨rfl, by simpa using h, hk⟩
  · simp [encTo, hk] at h

/-- what an error-free encoding implies about the tree: every Time lies within the 32-bit 1900-based range and every
AVP length fits 24 bits, at every nesting level -/
theorem tree_enc_ok_rep : (∀ v : Value, v.enc.err = none → v.repB = true) ∧ (∀ a : Avp, a.enc.err = none → a.repB = true) ∧
    ∀ ms : List Avp, (encList ms).err = none → repListB ms = true := by
  refine Value.induct (fun v h he => ?_) (fun ms ih he => ?_) (fun code vendor m p len padding v ih he => ?_)
    (fun _ => rfl) (fun a as iha ihs he => ?_)
  · cases v with
    | grouped ms => exact absurd rfl h
    | time secs n =>
      simp only [Value.enc] at he
      simp only [Value.repB, Bool.and_eq_true, decide_eq_true_eq]
      split at he
      · simp at he
      · split at he
        · simp at he
        · omega
    | _ => rfl
  · simp only [Value.enc] at he
    simp only [Value.repB, ih he]
  · obtain ⟨h24, hv⟩ := Avp.enc_err_none he
    simp only [Avp.repB, Bool.and_eq_true, decide_eq_true_eq]
    exact ⟨by omega, ih hv⟩
  · simp only [encList] at he
    obtain ⟨h1, h2, _⟩ := Enc.andThen_err_none he
    simp only [repListB, Bool.and_eq_true]
    exact ⟨iha h1, ihs h2⟩

theorem Value.enc_ok_rep : ∀ v : Value, v.enc.err = none → v.repB = true := tree_enc_ok_rep.1
theorem Avp.enc_ok_rep : ∀ a : Avp, a.enc.err = none → a.repB = true := tree_enc_ok_rep.2.1
theorem encList_ok_rep : ∀ ms : List Avp, (encList ms).err = none → repListB ms = true := tree_enc_ok_rep.2.2

/-- **C05, range.** If anything in the message cannot be represented on the wire - a Time before 1900 or after
2036-02-07T06:28:15Z, an AVP or the message of 2^24 octets or more, at any nesting level - encoding reports an error -/
theorem C05_range (m : Msg) (h : m.repB = false) : m.enc.err ≠ none := by
  intro he
  have : m.repB = true := by
    have h24 := Msg.enc_err_none he
    rw [Msg.enc_eq h24] at he
    simp only [Msg.repB, Bool.and_eq_true, decide_eq_true_eq]
    exact ⟨by omega, encList_ok_rep m.avps (Enc.andThen_err_none he).2.1⟩
  rw [this] at h
  cases h

/-- **an AVP on its own** (`Avp::encode_to`, which an application may call directly): success is never reported for an AVP the
wire cannot carry - a Time outside the range, a length of 2^24 or more, at any nesting level below it -/
theorem C05_avp_range (a : Avp) (h : a.repB = false) : a.enc.err ≠ none := by
  intro he
  have := Avp.enc_ok_rep a he
  rw [this] at h
  cases h

/-- ... and an AVP whose own length does not fit the 24-bit field is refused before a single octet is produced -/
theorem C05_avp_too_long (code : UInt32) (vendor : Option UInt32) (m p : Bool) (len padding : Nat) (v : Value)
    (h : len > 0xFFFFFF) : (Avp.mk code vendor m p len padding v).enc = ⟨[], some .tooLong⟩ := by
  simp [Avp.enc, encHdr, h, Enc.andThen]

/-- **C05, completeness of a success.** For a message whose bookkeeping is consistent (every built or faithfully
decoded message, C01_run), an encoding that reports success against a writer that dies after `k` octets has handed
over exactly the complete RFC 6733 frame of its content, whose length field equals the number of octets. -/
theorem C05_ok_is_complete (m : Msg) (k : Nat) (hg : m.Good) (h : (encTo m k).1 = true) :
    (encTo m k).2 = Spec.encode m.abs ∧ (Spec.encode m.abs).length = m.length ∧ m.length ≤ k := by
  obtain ⟨h1, h2, h3⟩ := C05_fault m k h
  have h24 := Msg.enc_err_none h2
  have hs := hg.enc_spec h24
  rw [h1, hs.1]
  refine ⟨rfl, hs.2, ?_⟩
  rw [hs.1] at h3
  simp only at h3
  omega

/-- **the stream codec**: `Codec::encode` encodes into a buffer first, so for a message that cannot be represented
nothing at all reaches the stream - not a truncated, wrapped or length-inconsistent frame - and the call fails -/
theorem C05_codec_nothing_written (m : Msg) (w : List WEv) (h : m.repB = false) : Codec.encodeTo m w = (false, []) := by
  have he := C05_range m h
  unfold Codec.encodeTo
  cases hx : m.enc.err with
  | none => exact absurd hx he
  | some e => rfl

/-! non-vacuity: a Time in 2040 inside a group makes the encoder fail; the same message with the Time in range
succeeds when the writer has room -/
example : (Msg.new 272 4 0 1 2 |>.addAvp 9 none 0 (.grouped [Avp.new 13 none 0 (.time 2208988800 0)])).repB = false := by
  decide
example : (Msg.new 272 4 0 1 2 |>.addAvp 9 none 0 (.grouped [Avp.new 13 none 0 (.time 0 0)])).repB = true := by
  decide

end Dia
