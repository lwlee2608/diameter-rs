import Dia.ServerThm
/-! # C09 - Server survives connection loss at any byte offset. Property theorems only.
`serve` is a total function of its scripts, so "the connection's task terminates" holds by construction for the
model; what the theorems establish is *what* has been called and written at the point of the loss. -/
namespace Dia

/-- **C09, read side.** The peer's stream carries `k` complete acceptable requests and then ends at an arbitrary
offset `q` inside the next one - in its length prefix, its header, an AVP, or exactly between frames (`q = 0`): the
handler has been invoked for exactly the `k` requests that arrived completely, exactly their answers have been
written, and the loop has ended (cleanly: the loss is reported as end of stream). -/
theorem C09_read_cut (cfg : Cfg) (dict : Lookup) (frames : List Bytes) (reqs answers : List Msg)
    (f : Bytes) (m : Msg) (q : Nat) (hs : List HRes) (evs : List REv) (w : List WEv)
    (hl1 : frames.length = reqs.length) (hl2 : answers.length = reqs.length)
    (hacc : ∀ i (h1 : i < frames.length) (h2 : i < reqs.length), Accepts cfg dict frames[i] reqs[i])
    (henc : ∀ a ∈ answers, a.enc.err = none) (hf : Accepts cfg dict f m) (hq : q < f.length)
    (hne : noEmpty evs) (hflat : flat evs = frames.flatten ++ f.take q) (hw : neverFails w) :
    serve cfg dict (answers.map .ok ++ hs) evs w =
      ⟨reqs, (answers.map (fun a => a.enc.bytes)).flatten, true⟩ := by
  obtain ⟨evs', w', g1, g2, _, g4⟩ := serve_prefix cfg dict frames reqs answers hs evs (f.take q) w
    hl1 hl2 hacc henc hne hflat hw
  rw [g4, serve_eof hs w' (Codec.decode_cut cfg dict evs' f m q g2 hf hq g1)]
  simp [ServeLog.prepend]

/-- **C09, reset instead of close.** Whether the peer's stream ends with an orderly close or with a read error
(connection reset), at whatever point of whatever script: the handler calls and the octets written are the same.
Together with `C09_read_cut` this covers a reset at any byte offset. -/
theorem C09_reset_like_close (cfg : Cfg) (dict : Lookup) (hs : List HRes) (evs : List REv) (w : List WEv) :
    (serve cfg dict hs (toEof evs) w).calls = (serve cfg dict hs evs w).calls ∧
    (serve cfg dict hs (toEof evs) w).written = (serve cfg dict hs evs w).written :=
  serve_toEof cfg dict hs evs w

/-- **C09, write side.** With the requests arriving intact and a write side that may stall, accept partially and fail
at any offset of any answer: the handler has been called for a prefix `reqs.take k` of the requests; the answers to
all but the last of them are completely on the stream; nothing beyond (a prefix of) the answer to the last one was
written - so no later handler call or write happens after the failure. -/
theorem C09_write_cut (cfg : Cfg) (dict : Lookup) (frames : List Bytes) (reqs answers : List Msg)
    (evs : List REv) (w : List WEv)
    (hl1 : frames.length = reqs.length) (hl2 : answers.length = reqs.length)
    (hacc : ∀ i (h1 : i < frames.length) (h2 : i < reqs.length), Accepts cfg dict frames[i] reqs[i])
    (henc : ∀ a ∈ answers, a.enc.err = none) (hne : noEmpty evs) (hflat : flat evs = frames.flatten) :
    ∃ k, k ≤ reqs.length ∧ (serve cfg dict (answers.map .ok) evs w).calls = reqs.take k ∧
      ((answers.take (k - 1)).map (fun a => a.enc.bytes)).flatten <+: (serve cfg dict (answers.map .ok) evs w).written ∧
      (serve cfg dict (answers.map .ok) evs w).written <+: ((answers.take k).map (fun a => a.enc.bytes)).flatten :=
  serve_write_any cfg dict frames reqs answers evs w hl1 hl2 hacc henc hne hflat

/-- the primitive fact behind it: whatever the write script does, what reaches the stream is a prefix of what was to
be written, and all of it exactly when the write reports success -/
theorem C09_write_prefix (bs : Bytes) (w : List WEv) :
    (writeAll bs w).2.1 <+: bs ∧ ((writeAll bs w).1 = true → (writeAll bs w).2.1 = bs) :=
  writeAll_prefix bs w

/-- no script of read outcomes and no script of write outcomes makes the loop reach a panic site of the decoder -/
theorem C09_no_panic (cfg : Cfg) (dict : Lookup) (evs : List REv) : (Codec.decode cfg dict evs).out ≠ .panic :=
  (Codec.decode_hostile cfg dict evs).1

/-- **C09, both sides at once.** The peer's stream carries complete acceptable requests and then ends at an arbitrary offset
`q` inside the next one, *while* the write side may stall, accept partially and fail at any offset of any answer: the handler
has been called for a prefix `reqs.take k` of the requests that arrived completely - never for the truncated one -, the answers
to all but the last of them are completely on the stream, and nothing beyond (a prefix of) the answer to the last one was
written. -/
theorem C09_cut_both (cfg : Cfg) (dict : Lookup) (frames : List Bytes) (reqs answers : List Msg)
    (f : Bytes) (m : Msg) (q : Nat) (evs : List REv) (w : List WEv)
    (hl1 : frames.length = reqs.length) (hl2 : answers.length = reqs.length)
    (hacc : ∀ i (h1 : i < frames.length) (h2 : i < reqs.length), Accepts cfg dict frames[i] reqs[i])
    (henc : ∀ a ∈ answers, a.enc.err = none) (hf : Accepts cfg dict f m) (hq : q < f.length)
    (hne : noEmpty evs) (hflat : flat evs = frames.flatten ++ f.take q) :
    ∃ k, k ≤ reqs.length ∧ (serve cfg dict (answers.map .ok) evs w).calls = reqs.take k ∧
      ((answers.take (k - 1)).map (fun a => a.enc.bytes)).flatten <+: (serve cfg dict (answers.map .ok) evs w).written ∧
      (serve cfg dict (answers.map .ok) evs w).written <+: ((answers.take k).map (fun a => a.enc.bytes)).flatten :=
  serve_write_any_rest cfg dict frames reqs answers (f.take q) evs w hl1 hl2 hacc henc hne hflat
    (fun evs2 hne2 hfl2 m' hm' => by rw [Codec.decode_cut cfg dict evs2 f m q hne2 hf hq hfl2] at hm'; cases hm')

/-- the same with anything behind the complete requests from which the stream reader extracts no message (a hostile
announcement, a frame the decoder refuses): the loop never calls the handler for it, whatever the write side does -/
theorem C09_refused_both (cfg : Cfg) (dict : Lookup) (frames : List Bytes) (reqs answers : List Msg)
    (rest : Bytes) (evs : List REv) (w : List WEv)
    (hl1 : frames.length = reqs.length) (hl2 : answers.length = reqs.length)
    (hacc : ∀ i (h1 : i < frames.length) (h2 : i < reqs.length), Accepts cfg dict frames[i] reqs[i])
    (henc : ∀ a ∈ answers, a.enc.err = none)
    (hne : noEmpty evs) (hflat : flat evs = frames.flatten ++ rest)
    (hrest : ∀ evs2, noEmpty evs2 → flat evs2 = rest → ∀ m, (Codec.decode cfg dict evs2).out ≠ .ok m) :
    ∃ k, k ≤ reqs.length ∧ (serve cfg dict (answers.map .ok) evs w).calls = reqs.take k ∧
      ((answers.take (k - 1)).map (fun a => a.enc.bytes)).flatten <+: (serve cfg dict (answers.map .ok) evs w).written ∧
      (serve cfg dict (answers.map .ok) evs w).written <+: ((answers.take k).map (fun a => a.enc.bytes)).flatten :=
  serve_write_any_rest cfg dict frames reqs answers rest evs w hl1 hl2 hacc henc hne hflat hrest

/-- ... in particular a well-framed frame the message decoder refuses (a command or an application the library does not know, an
AVP the dictionary does not know, a short frame whose last AVP announces data the frame does not have), followed by anything: the
requests before it are handled - as far as the write side lets them - and the handler is never called for the refused frame or
for anything behind it -/
theorem C09_refused_frame_both (cfg : Cfg) (dict : Lookup) (frames : List Bytes) (reqs answers : List Msg)
    (f more : Bytes) (evs : List REv) (w : List WEv)
    (hl1 : frames.length = reqs.length) (hl2 : answers.length = reqs.length)
    (hacc : ∀ i (h1 : i < frames.length) (h2 : i < reqs.length), Accepts cfg dict frames[i] reqs[i])
    (henc : ∀ a ∈ answers, a.enc.err = none) (hf : Framed f) (hno : ∀ m, decMsg cfg dict f ≠ .ok m)
    (hne : noEmpty evs) (hflat : flat evs = frames.flatten ++ (f ++ more)) :
    ∃ k, k ≤ reqs.length ∧ (serve cfg dict (answers.map .ok) evs w).calls = reqs.take k ∧
      ((answers.take (k - 1)).map (fun a => a.enc.bytes)).flatten <+: (serve cfg dict (answers.map .ok) evs w).written ∧
      (serve cfg dict (answers.map .ok) evs w).written <+: ((answers.take k).map (fun a => a.enc.bytes)).flatten :=
  serve_write_any_rest cfg dict frames reqs answers (f ++ more) evs w hl1 hl2 hacc henc hne hflat
    (fun evs2 hne2 hfl2 m' hm' => by
      obtain ⟨evs', hd, _, _⟩ := Codec.decode_framed cfg dict evs2 f more hne2 hfl2 hf
      rw [hd] at hm'
      exact hno m' (COut.ofDec_eq_ok.mp hm'))

/-- non-vacuity of `C09_cut_both`: one complete request, the next one cut after 7 octets, the write side failing after 3 octets
of the answer - one handler call, three octets written -/
example : ∃ k, k ≤ 1 ∧
    (serve exCfg exDictNone [.ok exFrameMsg] [.data (exFrame ++ exFrame.take 7)] [.accept 3, .fail]).calls = [exFrameMsg].take k ∧
    ((([exFrameMsg] : List Msg).take (k - 1)).map (fun a => a.enc.bytes)).flatten <+:
      (serve exCfg exDictNone [.ok exFrameMsg] [.data (exFrame ++ exFrame.take 7)] [.accept 3, .fail]).written ∧
    (serve exCfg exDictNone [.ok exFrameMsg] [.data (exFrame ++ exFrame.take 7)] [.accept 3, .fail]).written <+:
      ((([exFrameMsg] : List Msg).take k).map (fun a => a.enc.bytes)).flatten :=
  C09_cut_both exCfg exDictNone [exFrame] [exFrameMsg] [exFrameMsg] exFrame exFrameMsg 7
    [.data (exFrame ++ exFrame.take 7)] [.accept 3, .fail] rfl rfl
    (accepts_one exFrame_accepts) (by simp [exFrameMsg_enc]) exFrame_accepts (by decide) (by simp [noEmpty, exFrame])
    (by simp [flat])

end Dia
