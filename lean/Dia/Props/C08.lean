import Dia.Props.C07
/-! # C08 - Server answers each request exactly once, in order, unmodified. Property theorems only.
`serve` is the per-connection loop as a function of the read script, the handler's scripted results and the write
script; its log lists the requests handed to the handler and every octet put on the stream. -/
namespace Dia

/-- **C08, all good.** For any sequence of acceptable request frames, however segmented and with `Pending` anywhere
on both directions, the handler sees exactly those requests in order, exactly the encodings of its answers are
written in that order, and nothing else. (Induction over the frame list; no bound on its length.) -/
theorem C08_all_good (cfg : Cfg) (dict : Lookup) (frames : List Bytes) (reqs answers : List Msg)
    (evs : List REv) (w : List WEv) (hl1 : frames.length = reqs.length) (hl2 : answers.length = reqs.length)
    (hacc : ∀ i (h1 : i < frames.length) (h2 : i < reqs.length), Accepts cfg dict frames[i] reqs[i])
    (henc : ∀ a ∈ answers, a.enc.err = none) (hne : noEmpty evs) (hflat : flat evs = frames.flatten)
    (hw : neverFails w) :
    (serve cfg dict (answers.map .ok) evs w).calls = reqs ∧
    (serve cfg dict (answers.map .ok) evs w).written = (answers.map (fun a => a.enc.bytes)).flatten ∧
    (serve cfg dict (answers.map .ok) evs w).clean = true :=
  serve_all_good cfg dict frames reqs answers evs w hl1 hl2 hacc henc hne hflat hw

/-- **C08, handler failure at position k.** After `k` good exchanges the `k+1`-th acceptable request reaches the
handler, which fails: the handler has been called for exactly `k+1` requests, exactly the first `k` answers are on the
stream, and whatever follows on the read script - more requests - is never looked at: nothing further is called or
written. -/
theorem C08_handler_fails (cfg : Cfg) (dict : Lookup) (frames : List Bytes) (reqs answers : List Msg)
    (f : Bytes) (req : Msg) (later : Bytes) (hs : List HRes) (evs : List REv) (w : List WEv)
    (hl1 : frames.length = reqs.length) (hl2 : answers.length = reqs.length)
    (hacc : ∀ i (h1 : i < frames.length) (h2 : i < reqs.length), Accepts cfg dict frames[i] reqs[i])
    (henc : ∀ a ∈ answers, a.enc.err = none) (hf : Accepts cfg dict f req)
    (hne : noEmpty evs) (hflat : flat evs = frames.flatten ++ (f ++ later)) (hw : neverFails w) :
    (serve cfg dict (answers.map .ok ++ .err :: hs) evs w).calls = reqs ++ [req] ∧
    (serve cfg dict (answers.map .ok ++ .err :: hs) evs w).written = (answers.map (fun a => a.enc.bytes)).flatten := by
  obtain ⟨evs', w', g1, g2, _, g4⟩ := serve_prefix cfg dict frames reqs answers (.err :: hs) evs (f ++ later) w
    hl1 hl2 hacc henc hne hflat hw
  obtain ⟨evs2, hd, _, _⟩ := Codec.decode_frame cfg dict evs' f later req g2 g1 hf
  rw [g4, serve_handler_err hs w' (congrArg DecRes.out hd)]
  simp [ServeLog.prepend]

/-- **C08, unencodable answer at position k.** The handler returns an answer that cannot be represented on the wire (C05):
nothing of it is written - not a truncated or length-inconsistent frame - and the loop ends; the first `k` answers are
on the stream, complete. -/
theorem C08_answer_unencodable (cfg : Cfg) (dict : Lookup) (frames : List Bytes) (reqs answers : List Msg)
    (f : Bytes) (req ans : Msg) (later : Bytes) (hs : List HRes) (evs : List REv) (w : List WEv)
    (hl1 : frames.length = reqs.length) (hl2 : answers.length = reqs.length)
    (hacc : ∀ i (h1 : i < frames.length) (h2 : i < reqs.length), Accepts cfg dict frames[i] reqs[i])
    (henc : ∀ a ∈ answers, a.enc.err = none) (hf : Accepts cfg dict f req) (hbad : ans.enc.err ≠ none)
    (hne : noEmpty evs) (hflat : flat evs = frames.flatten ++ (f ++ later)) (hw : neverFails w) :
    (serve cfg dict (answers.map .ok ++ .ok ans :: hs) evs w).calls = reqs ++ [req] ∧
    (serve cfg dict (answers.map .ok ++ .ok ans :: hs) evs w).written = (answers.map (fun a => a.enc.bytes)).flatten := by
  obtain ⟨evs', w', g1, g2, _, g4⟩ := serve_prefix cfg dict frames reqs answers (.ok ans :: hs) evs (f ++ later) w
    hl1 hl2 hacc henc hne hflat hw
  obtain ⟨evs2, hd, _, _⟩ := Codec.decode_frame cfg dict evs' f later req g2 g1 hf
  rw [g4, serve_unencodable hs w' (congrArg DecRes.out hd) hbad]
  simp [ServeLog.prepend]

/-- **C08, malformed frame at position k.** After `k` good exchanges the stream continues with octets the stream
reader refuses (however they are delivered): the handler has been called for exactly the `k` requests before, exactly
their answers are written, and no later request reaches the handler. -/
theorem C08_malformed (cfg : Cfg) (dict : Lookup) (frames : List Bytes) (reqs answers : List Msg)
    (rest : Bytes) (hs : List HRes) (evs : List REv) (w : List WEv)
    (hl1 : frames.length = reqs.length) (hl2 : answers.length = reqs.length)
    (hacc : ∀ i (h1 : i < frames.length) (h2 : i < reqs.length), Accepts cfg dict frames[i] reqs[i])
    (henc : ∀ a ∈ answers, a.enc.err = none)
    (hbad : ∀ evs', flat evs' = rest → noEmpty evs' → ∃ e, (Codec.decode cfg dict evs').out = .err e)
    (hne : noEmpty evs) (hflat : flat evs = frames.flatten ++ rest) (hw : neverFails w) :
    (serve cfg dict (answers.map .ok ++ hs) evs w).calls = reqs ∧
    (serve cfg dict (answers.map .ok ++ hs) evs w).written = (answers.map (fun a => a.enc.bytes)).flatten := by
  obtain ⟨evs', w', g1, g2, _, g4⟩ := serve_prefix cfg dict frames reqs answers hs evs rest w
    hl1 hl2 hacc henc hne hflat hw
  obtain ⟨e, he⟩ := hbad evs' g1 g2
  obtain ⟨c, wr⟩ := serve_no_msg hs w' (fun m hm => by rw [he] at hm; cases hm)
  simp [g4, ServeLog.prepend, c, wr]

/-- the hypothesis of `C08_malformed` is satisfiable: e.g. a frame announcing fewer than 20 octets is refused however
it is delivered (C07) -/
theorem C08_malformed_example (cfg : Cfg) (dict : Lookup) (b0 : UInt8) (L : Nat) (tail : Bytes) (hL : L < 20)
    (evs' : List REv) (hflat : flat evs' = b0 :: be24 L ++ tail) (hne : noEmpty evs') :
    ∃ e, (Codec.decode cfg dict evs').out = .err e :=
  ⟨_, ((C07_announced cfg dict evs' b0 L tail (by omega) hne hflat).2.2.1 hL).1⟩

/-! non-vacuity: one acceptable request (`exFrame`), answered by a message that encodes to the same 20 octets, delivered
in two pieces over a writer that accepts one octet at a time -/
example : (serve exCfg exDictNone [.ok exFrameMsg] [.data (exFrame.take 7), .pending, .data (exFrame.drop 7)]
    [.accept 1, .pending, .accept 1]).calls = [exFrameMsg] ∧
    (serve exCfg exDictNone [.ok exFrameMsg] [.data (exFrame.take 7), .pending, .data (exFrame.drop 7)]
    [.accept 1, .pending, .accept 1]).written = exFrame := by
  have h := C08_all_good exCfg exDictNone [exFrame] [exFrameMsg] [exFrameMsg]
    [.data (exFrame.take 7), .pending, .data (exFrame.drop 7)] [.accept 1, .pending, .accept 1] rfl rfl
    (accepts_one exFrame_accepts) (by simp [exFrameMsg_enc]) (by simp [noEmpty, exFrame]) (by decide)
    (by simp [neverFails, WEv.good])
  simp only [List.map_cons, List.map_nil] at h
  exact ⟨h.1, by rw [h.2.1]; simp [exFrameMsg_enc]⟩

end Dia
