import Dia.AcceptThm
/-! # C10 - One misbehaving connection cannot disturb the others. Property theorems only.
The listener is the labelled transition system of `Dia/Accept.lean`; a schedule is any list of labels (peers
arriving, sending anything, the accept loop, handshakes completing or failing or never completing, connection tasks
consuming items - including a handler panic, which kills that task only). -/
namespace Dia.Acc

def Reachable (cfg : Cfg) (s : St) : Prop := ∃ ls, run cfg {} ls = some s

theorem Reachable.inv {cfg : Cfg} {s : St} (h : Reachable cfg s) : Inv cfg s :=
  let ⟨ls, hr⟩ := h
  inv_run ls (inv_init cfg) hr

/-- **frame property.** A step of another connection - whatever it is: a malformed frame, a stall, a reset, a failed
handshake, a handler panic - leaves this connection's component (phase, unread input, consumed input, answers
written) exactly as it was. -/
theorem C10_frame (cfg : Cfg) (s s' : St) (l : Label) (c : Nat) (h : step cfg s l = some s') (hc : l.conn ≠ c) :
    s'.phase c = s.phase c ∧ s'.inbox c = s.inbox c ∧ s'.consumed c = s.consumed c ∧ s'.out c = s.out c :=
  Proj.mk.inj (proj_frame h hc)

/-- **non-interference over whole schedules.** For every schedule - any number of other connections doing anything
at all, interleaved in any way - connection `c` ends in exactly the state (phase, unread input, consumed input,
answers written) that it reaches when the schedule is stripped of everything that does not concern `c`. -/
theorem C10_noninterference (cfg : Cfg) (hinl : cfg.inline = false) (c : Nat) (ls : List Label) (s : St)
    (h : run cfg {} ls = some s) :
    ∃ s', run cfg {} (ls.filter (fun l => l.conn = c)) = some s' ∧ s.proj c = s'.proj c :=
  noninterference cfg hinl c ls rfl rfl rfl h

/-- **answers are routed to their own connection, exactly once, in order.** In every reachable state, what has been
written to connection `c` is exactly one answer per request that `c`'s own peer sent and `c`'s task consumed, in
order, up to the first item that ended the connection - a function of `c`'s own input alone. -/
theorem C10_answers_routed (cfg : Cfg) (s : St) (h : Reachable cfg s) (c : Nat) :
    s.out c = owed (s.consumed c) ∧ ∀ id ∈ s.out c, Item.req id ∈ s.consumed c := by
  refine ⟨h.inv.out_ok c, fun id hid => ?_⟩
  rw [h.inv.out_ok c] at hid
  exact mem_owed hid

/-- **the listener keeps accepting** (repaired code: the handshake runs in the connection's own task). In every
reachable state any connection waiting in the backlog can be accepted - the accept loop never waits on a peer. -/
theorem C10_accept_enabled (cfg : Cfg) (hinl : cfg.inline = false) (s : St) (h : Reachable cfg s) (c : Nat)
    (hb : s.phase c = .backlog) : (step cfg s (.accept c)).isSome = true := by
  simp only [step, hb, h.inv.busy_cfg hinl]
  cases cfg.tls <;> simp

/-- **every connection makes progress on its own.** A connection that is being served and has unread input can take
its next step whatever state the other connections and the listener are in. -/
theorem C10_serve_enabled (cfg : Cfg) (s : St) (c : Nat) (hp : s.phase c = .serving) (hin : s.inbox c ≠ []) :
    (step cfg s (.serve c)).isSome = true := by
  obtain ⟨it, rest, hx⟩ := List.exists_cons_of_ne_nil hin
  rw [step_serve hp hx]
  rfl

/-- **every served connection can finish on its own.** In any reachable state, whatever the other connections are
doing or have done: running only connection `c`'s own steps consumes its whole pending input and leaves on `c`
exactly the answers `c` is owed - one per request, in order, up to the first item that ends the connection. -/
theorem C10_can_finish (cfg : Cfg) (s : St) (h : Reachable cfg s) (c : Nat) (hp : s.phase c = .serving) :
    (serveAll cfg c (s.inbox c).length s).out c = owed (s.consumed c ++ s.inbox c) := by
  have he := h.inv.serving_ok c hp
  exact serveAll_out cfg c _ s (by simp [hp, he]) (Nat.le_refl _) (h.inv.out_ok c)

/-- and a handshake that completes, fails or never completes concerns that connection only: completing is enabled
whenever the connection is in its handshake -/
theorem C10_handshake_enabled (cfg : Cfg) (s : St) (c : Nat) (hp : s.phase c = .handshake) :
    (step cfg s (.hsDone c)).isSome = true ∧ (step cfg s (.hsFail c)).isSome = true := by
  simp [step, hp]

/-- **negative witness for the code before fix D9** (`inline := true`, TLS on): one peer that connects and never
finishes its handshake leaves the next connection in the backlog with `accept` disabled. -/
theorem C10_inline_blocks :
    ∃ s, run ⟨true, true⟩ {} [.arrive 0, .arrive 1, .accept 0] = some s ∧ s.phase 1 = .backlog ∧
      (step ⟨true, true⟩ s (.accept 1)).isSome = false :=
  ⟨_, rfl, by decide, by decide⟩

/-! non-vacuity: a faulty peer (panic) between two good exchanges on other connections -/
example : ∃ s, run ⟨false, false⟩ {} [.arrive 0, .arrive 1, .accept 0, .accept 1, .send 0 (.req 7), .send 1 (.boom 9),
    .serve 1, .serve 0, .send 0 (.req 8), .serve 0] = some s ∧ s.out 0 = [7, 8] ∧ s.phase 1 = .dead :=
  ⟨_, rfl, by decide, by decide⟩

end Dia.Acc
