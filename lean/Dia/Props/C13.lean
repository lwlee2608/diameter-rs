import Dia.Tls
/-! # C13 - TLS settings are honoured exactly. Property theorems only.
The quantifier is a finite table (times the port digits of the address); the theorem is about the decision glue of the
repository - which parameters reach the TLS library - with the library's behaviour as a stated parameter. -/
namespace Dia.Tls

theorem splitLastColon_port (pre port : List Char) (hp : ∀ ch ∈ port, ch ≠ ':') :
    splitLastColon (pre ++ ':' :: port) = some (pre, port) := by
  unfold splitLastColon
  have hr : (pre ++ ':' :: port).reverse = port.reverse ++ ':' :: pre.reverse := by simp
  have hall : ∀ a ∈ port.reverse, (decide (a ≠ ':')) = true := by
    intro a ha; simpa using hp a (List.mem_reverse.mp ha)
  simp only [hr]
  rw [List.dropWhile_append_of_pos hall, List.takeWhile_append_of_pos hall]
  simp [List.dropWhile, List.takeWhile]

theorem dropWhile_none (l : List Char) (c : Char) (h : ∀ ch ∈ l, ch ≠ c) : l.dropWhile (· = c) = l := by
  cases l with
  | nil => rfl
  | cons a t => exact List.dropWhile_cons_of_neg (by simpa using h a List.mem_cons_self)

theorem contains_false (l : List Char) (c : Char) (h : ∀ ch ∈ l, ch ≠ c) : l.contains c = false := by
  simpa using fun m => h c m rfl

/-- before a port that holds neither `:` nor `]`, the host part is what stands before that last `:`, without leading
`[` and trailing `]` -/
theorem hostOf_port (pre port : List Char) (hp : ∀ ch ∈ port, ch ≠ ':' ∧ ch ≠ ']') :
    hostOf (pre ++ ':' :: port) = ((pre.dropWhile (· = '[')).reverse.dropWhile (· = ']')).reverse := by
  unfold hostOf
  rw [splitLastColon_port pre port (fun ch m => (hp ch m).1)]
  simp only [contains_false port ']' (fun ch m => (hp ch m).2), Bool.false_eq_true, if_false]

/-- `host:port` for any bracket-free host text (a name, a dotted quad, even a bare IPv6 literal): the domain handed to the
TLS library is exactly the host -/
theorem hostOf_host_port (h port : List Char) (hh : ∀ ch ∈ h, ch ≠ '[' ∧ ch ≠ ']')
    (hp : ∀ ch ∈ port, ch ≠ ':' ∧ ch ≠ ']') : hostOf (h ++ ':' :: port) = h := by
  rw [hostOf_port h port hp, dropWhile_none h '[' (fun ch m => (hh ch m).1),
    dropWhile_none h.reverse ']' (fun ch m => (hh ch (List.mem_reverse.mp m)).2), List.reverse_reverse]

/-- `[v6]:port` for any bracket-free literal: the domain is the literal without its brackets -/
theorem hostOf_bracketed_port (x port : List Char) (hx : ∀ ch ∈ x, ch ≠ '[' ∧ ch ≠ ']')
    (hp : ∀ ch ∈ port, ch ≠ ':' ∧ ch ≠ ']') : hostOf ('[' :: x ++ ']' :: ':' :: port) = x := by
  have e : '[' :: x ++ ']' :: ':' :: port = ('[' :: (x ++ [']'])) ++ ':' :: port := by simp
  have h1 : ∀ ch ∈ x ++ [']'], ch ≠ '[' := by
    intro ch m
    rcases List.mem_append.mp m with m | m
    · exact (hx ch m).1
    · cases List.mem_singleton.mp m; decide
  rw [e, hostOf_port _ port hp, List.dropWhile_cons_of_pos (by decide), dropWhile_none _ '[' h1, List.reverse_append,
    List.reverse_singleton, List.singleton_append, List.dropWhile_cons_of_pos (by decide),
    dropWhile_none x.reverse ']' (fun ch m => (hx ch (List.mem_reverse.mp m)).2), List.reverse_reverse]

/-- the host part is found whatever the port digits are: `host:port`, `a.b.c.d:port`, `[v6]:port` -/
theorem hostOf_address (k : AddrKind) (port : List Char) (hp : ∀ ch ∈ port, ch ≠ ':' ∧ ch ≠ ']') :
    hostOf (addressOf k port) = match k with | .host => nLocalhost | .ip => nIp4 | .ip6 => nIp6 := by
  cases k
  · exact hostOf_host_port nLocalhost port (by decide) hp
  · exact hostOf_host_port nIp4 port (by decide) hp
  · exact hostOf_bracketed_port nIp6 port (by decide) hp

/-- **C13.** For every cell of the table and every port: the outcome produced by the glue (`use_tls` decides whether a
session is attempted at all; `verify_cert` is passed as `!accept_invalid`; the domain handed to the library is the
host part of the address) equals the table the property states. -/
theorem C13_table (c : Cell) (port : List Char) (hp : ∀ ch ∈ port, ch ≠ ':' ∧ ch ≠ ']') :
    outcome c port = expected c := by
  obtain ⟨ct, vf, st, cert, addr⟩ := c
  cases ct <;> cases st <;> try rfl
  -- TLS on both sides: the library decides, on the host part of the address; the rest is the table, cell by cell
  simp only [outcome, clientParams, hostOf_address addr port hp]
  cases vf <;> cases cert <;> cases addr <;> rfl

/-- the defect D11 in the model's terms: had the whole `host:port` been handed to the library as the domain, a
trusted matching certificate would be refused under verification (`"localhost:3868"` is no SAN of it) -/
theorem C13_domain_matters :
    tlsLibAccepts ⟨true, false, nLocalhost ++ [':', '3', '8', '6', '8']⟩ .good = false ∧
    tlsLibAccepts ⟨true, false, hostOf (nLocalhost ++ [':', '3', '8', '6', '8'])⟩ .good = true := by
  decide

/-! ### any host name, any IPv6 literal, any certificate -/

/-- **C13 for every host and every certificate.** With TLS on both sides and an address `host:port`: a session is established
iff verification is off, or the certificate's chain is trusted *and* it names exactly the host the client was asked to connect
to - whatever the host text, the port and the certificate are. -/
theorem C13_any_host (verify : Bool) (h port : List Char) (cert : GCert) (hh : ∀ ch ∈ h, ch ≠ '[' ∧ ch ≠ ']')
    (hp : ∀ ch ∈ port, ch ≠ ':' ∧ ch ≠ ']') :
    gOutcome true verify true (h ++ ':' :: port) cert =
      (if !verify || (cert.trusted && cert.names.contains h) then .session else .refused) := by
  simp only [gOutcome, gLibAccepts, hostOf_host_port h port hh hp]

theorem C13_any_literal (verify : Bool) (x port : List Char) (cert : GCert) (hx : ∀ ch ∈ x, ch ≠ '[' ∧ ch ≠ ']')
    (hp : ∀ ch ∈ port, ch ≠ ':' ∧ ch ≠ ']') :
    gOutcome true verify true ('[' :: x ++ ']' :: ':' :: port) cert =
      (if !verify || (cert.trusted && cert.names.contains x) then .session else .refused) := by
  simp only [gOutcome, gLibAccepts, hostOf_bracketed_port x port hx hp]

/-- whatever the address and the certificate: a TLS client never ends in plain text, a plain client never gets a session, and a
TLS server never serves a plain client -/
theorem C13_any_modes (useTls verify serverTls : Bool) (address : List Char) (cert : GCert) :
    (useTls = true → gOutcome useTls verify serverTls address cert ≠ .plain) ∧
    (useTls = false → gOutcome useTls verify serverTls address cert ≠ .session) ∧
    (serverTls = true → useTls = false → gOutcome useTls verify serverTls address cert = .refused) := by
  cases useTls <;> cases serverTls <;> simp [gOutcome] <;> split <;> simp

/-- the table is the instance of the general glue at the scenario's addresses and certificates -/
theorem C13_table_is_instance (c : Cell) (port : List Char) :
    outcome c port = gOutcome c.clientTls c.verify c.serverTls (addressOf c.addr port) ⟨trusted c.cert, sans c.cert⟩ := by
  obtain ⟨ct, vf, st, cert, addr⟩ := c
  cases ct <;> cases st <;> simp [outcome, gOutcome, clientParams, tlsLibAccepts, gLibAccepts]

/-- with TLS enabled the client puts no Diameter octet on the socket in clear text, and proceeds only inside a session -/
theorem C13_no_cleartext (c : Cell) (port : List Char) (h : c.clientTls = true) :
    clearText c = false ∧ outcome c port ≠ .plain := by
  rw [C13_table_is_instance]
  exact ⟨by simp [clearText, h], (C13_any_modes ..).1 h⟩

/-- a server configured with a TLS identity never processes or answers a plain-text request -/
theorem C13_server_tls_never_plain (c : Cell) (port : List Char) (h : c.serverTls = true) (hc : c.clientTls = false) :
    outcome c port = .refused := by
  rw [C13_table_is_instance]
  exact (C13_any_modes ..).2.2 h hc

example : gOutcome true true true ("db.example.net:3868".toList) ⟨true, ["db.example.net".toList]⟩ = .session ∧
    gOutcome true true true ("db.example.net:3868".toList) ⟨true, ["other.example.net".toList]⟩ = .refused ∧
    gOutcome true true true ("[2001:db8::7]:3868".toList) ⟨true, ["2001:db8::7".toList]⟩ = .session := by
  -- string literals reduce badly in the kernel: spell them out as character lists first
  simp only [String.reduceToList]
  decide

end Dia.Tls
