import Dia.Props.C02
import Dia.Utf8Spec
/-! # C03 - Decoding is faithful: accepted frames mean what their bytes say. Property theorems only.
`Spec.encode` (Dia/Spec.lean) is the independent RFC 6733 reading; `applyMask _ (maskList _)` forgets exactly what
the property allows to be normalised: AVP padding octets (`zero`) and the five reserved AVP flag bits (`flags`). -/
namespace Dia
open Spec

/-- **C03, faithful half.** A frame whose size equals its declared length and that the decoder accepts - under any
leniency configuration - without a fixed-size length lie (`NoLieList`, finding F1; see `C03_strict_no_lie`) is, up to
padding octets and reserved flag bits, *the RFC 6733 encoding of the message returned*: the returned message is
consistent, re-encodes without error to a frame of the same length, and that frame is `Spec.encode` of its content. -/
theorem C03_faithful (cfg : Cfg) (dict : Lookup) (bs : Bytes) (m : Msg)
    (h : decMsg cfg dict bs = .ok m) (hlen : bs.length = m.length) (hnl : NoLieList m.avps) :
    m.Good ∧ m.enc = ⟨Spec.encode m.abs, none⟩ ∧ (Spec.encode m.abs).length = bs.length ∧
    ∃ hb body, bs = hb ++ body ∧ hb.length = 20 ∧ body.length = (maskList m.avps).length ∧
      Spec.encode m.abs = hb ++ applyMask body (maskList m.avps) := by
  obtain ⟨hg, body, hbs, hw⟩ := decMsg_sound h hlen hnl
  refine ⟨hg, (hg.enc_spec (decMsg_ok h).1).1, by rw [hg.encode_length, hlen], _, body, hbs,
    m.hdrBytes_length, hw.len, ?_⟩
  rw [hg.encode_eq, hw.enc]

/-- **C03, accepting half.** Every frame that is, up to padding octets and reserved flag bits, the RFC encoding of a
consistent carriable message with known command code, application id and dictionary-typed AVPs nested no deeper
than the decoder's limit is accepted and decoded to exactly that message - whatever the padding octets and
reserved bits contain. -/
theorem C03_accepts (cfg : Cfg) (hf : cfg.tables.Fit) (dict : Lookup) (m : Msg) (body : Bytes) (hg : m.Good)
    (hh : m.HeaderOk cfg.tables)
    (hty : TypedList dict m.avps) (h24 : m.length < 16777216) (hd : depthList m.avps ≤ cfg.limit)
    (hbl : body.length = (maskList m.avps).length)
    (hbody : applyMask body (maskList m.avps) = encodeAvps (absList m.avps)) :
    decMsg cfg dict (m.hdrBytes ++ body) = .ok m := by
  refine decMsg_wire hf hg hh hty h24 hd ⟨hg.cons, hg.wf, hbl, ?_⟩
  rw [hbody]
  exact encList_spec m.avps hg.wf hg.cons

/-- two frames that differ only in padding octets and reserved bits decode to the same message -/
theorem C03_noise_irrelevant (cfg : Cfg) (hf : cfg.tables.Fit) (dict : Lookup) (m : Msg) (body body' : Bytes)
    (hg : m.Good) (hh : m.HeaderOk cfg.tables) (hty : TypedList dict m.avps) (h24 : m.length < 16777216) (hd : depthList m.avps ≤ cfg.limit)
    (hbl : body.length = (maskList m.avps).length) (hbl' : body'.length = (maskList m.avps).length)
    (hbody : applyMask body (maskList m.avps) = encodeAvps (absList m.avps))
    (hbody' : applyMask body' (maskList m.avps) = encodeAvps (absList m.avps)) :
    decMsg cfg dict (m.hdrBytes ++ body) = decMsg cfg dict (m.hdrBytes ++ body') := by
  rw [C03_accepts cfg hf dict m body hg hh hty h24 hd hbl hbody,
    C03_accepts cfg hf dict m body' hg hh hty h24 hd hbl' hbody']

/-- a decoder that is lenient for no type (the configuration probed from the code when finding F1 is absent) never
returns a fixed-size value under a lying length: for it the hypothesis `NoLieList` of `C03_faithful` is vacuous -/
theorem C03_strict_no_lie (cfg : Cfg) (dict : Lookup) (hs : ∀ t d, cfg.lenient t d = false) (bs : Bytes) (m : Msg)
    (h : decMsg cfg dict bs = .ok m) : NoLieList m.avps :=
  decMsg_strict cfg dict hs bs m h

/-- **C03 at full strength for a strict decoder**: whenever it accepts a complete frame, the frame is the RFC encoding
of what is returned, up to padding octets and reserved flag bits -/
theorem C03_faithful_strict (cfg : Cfg) (dict : Lookup) (hs : ∀ t d, cfg.lenient t d = false) (bs : Bytes) (m : Msg)
    (h : decMsg cfg dict bs = .ok m) (hlen : bs.length = m.length) :
    m.Good ∧ m.enc = ⟨Spec.encode m.abs, none⟩ ∧ (Spec.encode m.abs).length = bs.length ∧
    ∃ hb body, bs = hb ++ body ∧ hb.length = 20 ∧ body.length = (maskList m.avps).length ∧
      Spec.encode m.abs = hb ++ applyMask body (maskList m.avps) :=
  C03_faithful cfg dict bs m h hlen (C03_strict_no_lie cfg dict hs bs m h)

/-- whatever is accepted, under any leniency, is typed by the dictionary at every nesting level (the value variant of
every AVP is the one its exact (code, vendor) entry declares), nests within the limit, and carries a known command
code and application id -/
theorem C03_typed (cfg : Cfg) (dict : Lookup) (bs : Bytes) (m : Msg) (h : decMsg cfg dict bs = .ok m) :
    TypedList dict m.avps ∧ depthList m.avps ≤ cfg.limit ∧ m.HeaderOk cfg.tables :=
  decMsg_typed cfg dict bs m h

/-! ### the same against the independent reading relation `Spec.Parses` (Dia/SpecParse.lean)

`Parses dict bs s` says, without mentioning the model: `s` is a message the library can represent (known command code
and application id, valid values, every AVP typed by the dictionary entry of its exact (code, vendor) pair), `bs` has
exactly the size of `Spec.encode s`, and equals it on every significant octet and bit (`Spec.SMsg.mask`). -/

/-- **soundness**: what the decoder accepts (frame of its declared size, no fixed-size length lie) is what an
independent RFC 6733 reader extracts from those octets -/
theorem C03_sound (cfg : Cfg) (dict : Lookup) (bs : Bytes) (m : Msg)
    (h : decMsg cfg dict bs = .ok m) (hlen : bs.length = m.length) (hnl : NoLieList m.avps) :
    Parses cfg.tables dict bs m.abs :=
  decMsg_parses cfg dict bs m h hlen hnl

/-- **completeness**: every well-formed frame whose command code, application id and AVPs are known to the library
and dictionary, nested within the limit, is accepted - whatever its padding octets and reserved bits contain - and the
message returned has exactly the content the reader extracts -/
theorem C03_complete (cfg : Cfg) (hf : cfg.tables.Fit) (dict : Lookup) (bs : Bytes) (s : SMsg)
    (hp : Parses cfg.tables dict bs s)
    (hd : depthAvps s.avps ≤ cfg.limit) : ∃ m, decMsg cfg dict bs = .ok m ∧ m.abs = s :=
  ⟨s.conc, decMsg_of_parses cfg dict bs s hf hp hd⟩

/-- **uniqueness**: the octets determine the message (so "the message an independent reader extracts" is well defined) -/
theorem C03_unique (T : Tables) (hf : T.Fit) (dict : Lookup) (bs : Bytes) (s s' : SMsg) (h : Parses T dict bs s)
    (h' : Parses T dict bs s') : s = s' :=
  parses_unique T hf dict bs s s' h h'

/-- the strict reader the check uses as its run-time oracle returns `s` exactly when the frame parses as `s` -/
theorem C03_read_correct (T : Tables) (hf : T.Fit) (dict : Lookup) (bs : Bytes) (s : SMsg) :
    Spec.read T dict bs = some s ↔ Parses T dict bs s :=
  read_correct T hf dict bs s

/-- rejection of inconsistent frames, as a consequence: a frame (of its declared size) that does not parse as anything -
lying length fields, wrong fixed-size values, unknown address families, malformed UTF-8, group boundaries that do not
add up - is not accepted by a strict decoder -/
theorem C03_rejects_unparsable (cfg : Cfg) (dict : Lookup) (hs : ∀ t d, cfg.lenient t d = false) (bs : Bytes)
    (hno : ∀ s, ¬ Parses cfg.tables dict bs s) (m : Msg) (hlen : bs.length = m.length) : decMsg cfg dict bs ≠ .ok m := by
  intro h
  exact hno m.abs (decMsg_parses cfg dict bs m h hlen (decMsg_strict cfg dict hs bs m h))

/-- **the decode-then-extend part of C01's quantifier is inhabited by every well-formed frame.** A frame that parses
(as any `s`, within the nesting limit) is a legitimate argument of the `decode` operation of a construction history
(`OpOk`), under every leniency: it is accepted, the message has the frame's size and contains no length lie - so
the history can go on extending it and C01/C02 keep applying. -/
theorem C03_parsed_frames_in_domain (cfg : Cfg) (hf : cfg.tables.Fit) (s0 : MState) (bs : Bytes) (s : SMsg)
    (hp : Parses cfg.tables s0.dict.lookup bs s) (hd : depthAvps s.avps ≤ cfg.limit) : OpOk cfg s0 (.decode bs) := by
  obtain ⟨m, hg, rfl⟩ := hp.exists_good
  intro m' hm
  rw [decMsg_of_parses_abs hf hg hp (absList_depth _ ▸ hd)] at hm
  cases hm
  exact ⟨hp.size.trans hg.encode_length, consList_nolie _ hg.cons⟩

/-- **what "well-formed UTF-8 text" means, independently.** The predicate the model uses for `String::from_utf8`
(`utf8Valid`: the byte-range table, Unicode Table 3-7) accepts an octet string exactly when it is a concatenation of
RFC 3629 encodings of Unicode scalar values (code points below 0x110000 that are not surrogates): overlong forms,
surrogates, values beyond U+10FFFF, stray continuation octets and truncated sequences are all refused, and nothing else
is. This is the meaning of `Valid` for UTF8String, DiameterIdentity and E.164 values in `Spec.Parses`. -/
theorem C03_utf8_is_rfc3629 (bs : Bytes) :
    utf8Valid bs = true ↔ ∃ cs : List Nat, (∀ c ∈ cs, isScalar c) ∧ bs = cs.flatMap encScalar :=
  ⟨scalars_of_utf8Valid bs, fun ⟨cs, hcs, e⟩ => e ▸ utf8Valid_of_scalars cs hcs⟩

/-! ### finding F1: the full statement fails for the lenient configuration the code has today -/

def lenientAll : Cfg := ⟨fun _ _ => true, 32, {}⟩
/-- the dictionary of the witness: AVP 415 (CC-Request-Number) is an Unsigned32 -/
def dict415 : Lookup := fun c v => if c = 415 ∧ v = none then .unsigned32 else .unknown
/-- 36 octets: a CCR whose only AVP, an Unsigned32, declares 16 octets instead of 12 -/
def witnessF1 : Bytes :=
  [0x01,0x00,0x00,0x24, 0x80,0x00,0x01,0x10, 0,0,0,4, 0,0,0,1, 0,0,0,2,
   0,0,0x01,0x9f, 0x40,0,0,0x10, 0,0,0,7, 1,2,3,4]

def decSummary (o : Out Msg) : Option (Nat × Nat × Nat) :=
  match o with
  | .ok m => some (m.length, m.enc.bytes.length, m.avps.length)
  | _ => none

/-- the lenient decoder accepts the witness, reports 36 octets about it, and re-encodes it to 32: the last four octets
are silently dropped (replayed on the real code by the C03 check: known finding F1) -/
theorem C03_lenient_witness :
    witnessF1.length = 36 ∧ decSummary (decMsg lenientAll dict415 witnessF1) = some (36, 32, 1) := by
  decide

/-- while the strict reader refuses it -/
theorem C03_strict_refuses_witness :
    decSummary (decMsg ⟨fun _ _ => false, 32, {}⟩ dict415 witnessF1) = none := by
  decide

end Dia
