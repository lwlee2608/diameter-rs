import Dia.SpecEq
import Dia.StreamSeq
/-! # C06 - Stream framing is independent of how bytes are segmented. Property theorems only.
A byte stream is a script of successive `poll_read` outcomes (`REv`: a chunk, `Pending`, end, error); `flat` is the
octet sequence it delivers. `noEmpty` says the script is a well-behaved one: no i/o error, no empty chunk. -/
namespace Dia

/-- segmentation independence of the primitive: `read_exact n` returns the next `n` octets of the stream and leaves
a script that delivers exactly the rest - for every chunking and every placement of `Pending` -/
theorem C06_read_exact (n : Nat) (evs : List REv) (hne : noEmpty evs) (hn : n ≤ (flat evs).length) :
    ∃ evs', readExact n evs = (.ok ((flat evs).take n), evs') ∧ flat evs' = (flat evs).drop n ∧ noEmpty evs' :=
  readExact_flat n evs hne hn

/-- **C06, read side, one call.** On any script that delivers an acceptable frame `f` followed by anything, one call
returns `f`'s message, takes exactly `|f|` octets - never an octet of what follows - and leaves exactly the rest. -/
theorem C06_read_frame (cfg : Cfg) (dict : Lookup) (evs : List REv) (f more : Bytes) (m : Msg)
    (hne : noEmpty evs) (hflat : flat evs = f ++ more) (ha : Accepts cfg dict f m) :
    ∃ evs', Codec.decode cfg dict evs = ⟨.ok m, evs', f.length⟩ ∧ flat evs' = more ∧ noEmpty evs' :=
  Codec.decode_frame cfg dict evs f more m hne hflat ha

/-- two scripts that deliver the same octets give the same message and the same consumption, whatever their
segmentation: the literal statement of segmentation independence -/
theorem C06_read_independent (cfg : Cfg) (dict : Lookup) (evs evs2 : List REv) (f more : Bytes) (m : Msg)
    (hne : noEmpty evs) (hne2 : noEmpty evs2) (hflat : flat evs = f ++ more) (hflat2 : flat evs2 = f ++ more)
    (ha : Accepts cfg dict f m) :
    (Codec.decode cfg dict evs).consumed = (Codec.decode cfg dict evs2).consumed ∧
    (∃ r r2, Codec.decode cfg dict evs = ⟨.ok m, r, f.length⟩ ∧ Codec.decode cfg dict evs2 = ⟨.ok m, r2, f.length⟩ ∧
      flat r = flat r2) := by
  obtain ⟨r, h1, h2, _⟩ := Codec.decode_frame cfg dict evs f more m hne hflat ha
  obtain ⟨r2, g1, g2, _⟩ := Codec.decode_frame cfg dict evs2 f more m hne2 hflat2 ha
  exact ⟨by rw [h1, g1], r, r2, h1, g1, by rw [h2, g2]⟩

/-- **C06, write side.** Writing to a stream that accepts octets in arbitrary partial amounts, with arbitrary pauses,
puts exactly the octets handed to `write_all` on the stream -/
theorem C06_write (bs : Bytes) (w : List WEv) (hw : neverFails w) :
    ∃ w', writeAll bs w = (true, bs, w') ∧ neverFails w' :=
  writeAll_ok bs w hw

/-- **C06, read side, whole stream.** Reading a stream that carries a concatenation of acceptable frames - followed by
anything - yields exactly those messages, in order, the i-th call consuming exactly the i-th frame, however the
octets are delivered. (Induction over the frame list; no bound on its length.) -/
theorem C06_read_all (cfg : Cfg) (dict : Lookup) (frames : List Bytes) (msgs : List Msg) (evs : List REv) (more : Bytes)
    (hl : frames.length = msgs.length)
    (hacc : ∀ i (h1 : i < frames.length) (h2 : i < msgs.length), Accepts cfg dict frames[i] msgs[i])
    (hne : noEmpty evs) (hflat : flat evs = frames.flatten ++ more) :
    decodeSeq cfg dict frames.length evs = (msgs.zip frames).map (fun mf => (COut.ok mf.1, mf.2.length)) := by
  refine Accepts.stream_induct ?_ ?_ frames msgs evs hl hacc hne hflat
  · intros
    rfl
  · intro f fs m ms evs evs' hd ih
    simp only [List.length_cons, decodeSeq, hd, List.zip_cons_cons, List.map_cons, ih]

/-- **C06, read side, streams that also carry refused frames.** `Framed f`: the frame announces its own size, between 20
octets and 1 MiB. On a stream of such frames - whatever the message decoder thinks of their content: unknown command,
unknown AVP, broken text - the i-th call reports exactly the verdict on the i-th frame and consumes exactly that frame,
however the octets are delivered: a refused frame never costs an octet of its successors. (This is the function the
driver runs for `sdec`.) -/
theorem C06_read_refused (cfg : Cfg) (dict : Lookup) (frames : List Bytes) (evs : List REv) (more : Bytes)
    (hfr : ∀ f ∈ frames, Framed f) (hne : noEmpty evs) (hflat : flat evs = frames.flatten ++ more) :
    decodeSeqAll cfg dict frames.length evs = frames.map (fun f => (COut.ofDec (decMsg cfg dict f), f.length)) :=
  decodeSeqAll_framed cfg dict frames evs more hfr (fun f _ => decMsg_ne_panic cfg dict f) hne hflat

/-- **C06, write side, whole codec.** `Codec::encode` of a message whose bookkeeping is consistent, over a stream that
accepts octets in arbitrary partial amounts with arbitrary pauses, reports success and has put exactly the RFC 6733
encoding of the message on the stream -/
theorem C06_encode (m : Msg) (w : List WEv) (hw : neverFails w) (hg : m.Good) (h24 : m.length < 16777216) :
    Codec.encodeTo m w = (true, Spec.encode m.abs) := by
  have hs := (hg.enc_spec h24).1
  rw [Codec.encodeTo_ok m w hw (by rw [hs]), hs]

/-! non-vacuity: a header-only frame is acceptable (`exFrame_accepts`, Dia/CodecThm.lean), and a script that delivers
it in two pieces with a pause in between meets the hypotheses of the read-side theorems -/
example : noEmpty [.data (exFrame.take 3), .pending, .data (exFrame.drop 3)] ∧
    flat [.data (exFrame.take 3), .pending, .data (exFrame.drop 3)] = exFrame ++ [] := by
  refine ⟨?_, by decide⟩
  simp [noEmpty, exFrame]

example : ∃ evs', Codec.decode exCfg exDictNone [.data (exFrame.take 3), .pending, .data (exFrame.drop 3)] =
    ⟨.ok exFrameMsg, evs', 20⟩ ∧ flat evs' = [] ∧ noEmpty evs' :=
  C06_read_frame exCfg exDictNone _ exFrame [] exFrameMsg (by simp [noEmpty, exFrame]) (by decide) exFrame_accepts

end Dia
