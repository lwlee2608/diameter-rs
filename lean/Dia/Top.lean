import Dia.Dec
import Dia.Rt
/-! The message decoder `decMsg`: what an accepted frame is (`decMsg_ok`), and the theorems about the AVP decoder lifted to
whole frames. -/
namespace Dia

/-- an accepted frame: 20 octets that are the encoding of the header returned, with a command code and an application id
the library knows, then the member list, decoded from the rest with the declared length as its end -/
theorem decMsg_ok {cfg : Cfg} {dict : Lookup} {bs : Bytes} {m : Msg} (h : decMsg cfg dict bs = .ok m) :
    m.length < 16777216 ∧ m.HeaderOk cfg.tables ∧ ∃ body c', bs = m.hdrBytes ++ body ∧
      decGroup cfg dict (bs.length + 1) 0 m.length 20 (.inRange body) = .ok (m.avps, c') := by
  unfold decMsg at h
  simp only [Out.bind_eq_ok] at h
  obtain ⟨⟨hb, c1⟩, hr, h⟩ := h
  rcases Cur.read_ok hr with ⟨h0, _⟩ | ⟨body, hbs, rfl, hl⟩
  · cases h0
  dsimp only at h
  split at h
  · cases h
  · rename_i hcmd
    split at h
    · cases h
    · rename_i happ
      simp only [Out.bind_eq_ok] at h
      obtain ⟨⟨avps, c2⟩, hg, h⟩ := h
      cases h
      obtain ⟨e20, h24⟩ := hdr20 hl avps
      cases hbs
      exact ⟨h24, ⟨Decidable.of_not_not hcmd, Decidable.of_not_not happ⟩, body, c2, congrArg (· ++ body) e20, hg⟩

theorem decMsg_typed (cfg : Cfg) (dict : Lookup) (bs : Bytes) (m : Msg) (h : decMsg cfg dict bs = .ok m) :
    TypedList dict m.avps ∧ depthList m.avps ≤ cfg.limit ∧ m.HeaderOk cfg.tables := by
  obtain ⟨_, hh, body, c', _, hg⟩ := decMsg_ok h
  obtain ⟨t1, t2⟩ := dec_typed.2 hg (Nat.zero_le _)
  exact ⟨t1, by simpa using t2, hh⟩

theorem decMsg_strict (cfg : Cfg) (dict : Lookup) (hs : ∀ t d, cfg.lenient t d = false) (bs : Bytes) (m : Msg)
    (h : decMsg cfg dict bs = .ok m) : NoLieList m.avps := by
  obtain ⟨_, _, body, c', _, hg⟩ := decMsg_ok h
  exact (dec_strict hs).2 hg

/-- a frame whose size equals its declared length and that the decoder accepts without a fixed-size length lie is the
header of the message returned followed by a wire form of its AVPs; the message's bookkeeping is right -/
theorem decMsg_sound {cfg : Cfg} {dict : Lookup} {bs : Bytes} {m : Msg}
    (h : decMsg cfg dict bs = .ok m) (hlen : bs.length = m.length) (hnl : NoLieList m.avps) :
    m.Good ∧ ∃ body, bs = m.hdrBytes ++ body ∧ WireList m.avps body := by
  obtain ⟨_, _, body, c', hbs, hg⟩ := decMsg_ok h
  have h20 := m.hdrBytes_length
  obtain ⟨g2, g1, g3⟩ := dec_exact.2 hg hnl
  -- the frame has its declared size, so the member list ended exactly at the end of the frame
  have hbl : body.length = lenList m.avps := by
    have := congrArg List.length hbs
    rw [List.length_append] at this
    omega
  obtain rfl := Cur.vlen_zero (c := c') (by rw [g1]; simp [Cur.vlen, hbl])
  obtain ⟨used, k1, hw⟩ := g3 [] rfl
  simp only [Cur.inRange.injEq, List.append_nil] at k1
  subst k1
  exact ⟨⟨hw.wf, hw.cons, by omega⟩, body, hbs, hw⟩

/-- C03, faithful half, for the model (`C03_faithful` adds the specification): `decMsg_sound` with the wire form spelt out -/
theorem decMsg_faithful (cfg : Cfg) (dict : Lookup) (bs : Bytes) (m : Msg)
    (h : decMsg cfg dict bs = .ok m) (hlen : bs.length = m.length) (hnl : NoLieList m.avps) :
    ∃ hb body, bs = hb ++ body ∧ hb.length = 20 ∧ body.length = (maskList m.avps).length ∧
      m.enc = ⟨hb ++ applyMask body (maskList m.avps), none⟩ ∧
      ConsList m.avps ∧ WFList m.avps ∧ m.length = 20 + lenList m.avps := by
  obtain ⟨hg, body, hbs, hw⟩ := decMsg_sound h hlen hnl
  refine ⟨_, body, hbs, m.hdrBytes_length, hw.len, ?_, hg.cons, hg.wf, hg.len⟩
  rw [Msg.enc_eq (decMsg_ok h).1, Enc.ok, Enc.andThen_ok, hw.enc]

theorem decMsg_safe (cfg : Cfg) (dict : Lookup) (bs : Bytes) : (decMsg cfg dict bs).Safe True True := by
  unfold decMsg
  refine (Cur.read_safe _ _).bind fun ⟨hb, c1⟩ hr => ?_
  dsimp only
  have hrem : c1.rem + 20 = bs.length := Cur.read_rem hr
  split
  · exact Out.Safe.err nofun
  · split
    · exact Out.Safe.err nofun
    · refine ((decGroup_safe cfg dict _ 0 _ 20 c1).mono (fun _ => ?_) (fun _ => by omega)).bind fun _ _ => Out.Safe.ok _
      -- the declared length is a 24-bit field
      exact Nat.lt_of_lt_of_le (fromBe_lt _) (Nat.pow_le_pow_right (by decide : 0 < 256) (List.length_take_le 3 _))

/-- C04 for the model: no byte string makes the decoder reach a panic site -/
theorem decMsg_ne_panic (cfg : Cfg) (dict : Lookup) (bs : Bytes) : decMsg cfg dict bs ≠ .panic :=
  (decMsg_safe cfg dict bs).1 trivial

/-- C02 / C03, accepting half, for the model: behind its header, any wire form of the AVPs of a good, typed message of
admissible depth decodes to that message -/
theorem decMsg_rt (cfg : Cfg) (dict : Lookup) (m : Msg) (body : Bytes)
    (hc : ConsList m.avps) (hwf : WFList m.avps) (hty : TypedList dict m.avps)
    (hlen : m.length = 20 + lenList m.avps) (hlen24 : m.length < 16777216)
    (hcmd : cfg.tables.cmdKnown m.cmd = true) (happ : cfg.tables.appKnown m.app = true)
    (hcmd24 : m.cmd < 16777216) (happ32 : m.app < 4294967296)
    (hd : depthList m.avps ≤ cfg.limit)
    (hbl : body.length = (maskList m.avps).length)
    (henc : encList m.avps = ⟨applyMask body (maskList m.avps), none⟩) :
    decMsg cfg dict (m.hdrBytes ++ body) = .ok m := by
  have hlb := maskList_len m.avps hc
  have hsz := szList_le m.avps hc
  have hgrp := decGroup_wire cfg dict ((m.hdrBytes ++ body).length + 1) 0 m.length 20 m.avps body [] ⟨hc, hwf, hbl, henc⟩ hty
    (by simp; omega) (by omega) (by omega) hlen24
  rw [List.append_nil] at hgrp
  unfold decMsg
  rw [Cur.read_append _ m.hdrBytes_length]
  simp only [Out.bind_ok]
  obtain ⟨f0, f1, f4, f5, f8, f12, f16⟩ := m.hdrBytes_fields
  rw [f0, f1, f4, f5, f8, f12, f16, fromBe_be24 _ hlen24, fromBe_be24 _ hcmd24, fromBe_be32 _ happ32, u32_rt, u32_rt,
    if_neg (by simp [hcmd]), if_neg (by simp [happ]), hgrp]
  rfl

/-- the converse of `decMsg_sound`, in the same terms: the header of a good message - typed, of admissible depth, its command
and application known -, followed by any wire form of its AVPs, is decoded to that message -/
theorem decMsg_wire {cfg : Cfg} {dict : Lookup} {m : Msg} {body : Bytes} (hf : cfg.tables.Fit) (hg : m.Good)
    (hh : m.HeaderOk cfg.tables) (hty : TypedList dict m.avps) (h24 : m.length < 16777216)
    (hd : depthList m.avps ≤ cfg.limit) (hw : WireList m.avps body) : decMsg cfg dict (m.hdrBytes ++ body) = .ok m :=
  decMsg_rt cfg dict m body hg.cons hg.wf hty hg.len h24 hh.cmd hh.app (Tables.cmd_lt hf hh.cmd) (Tables.app_lt hf hh.app)
    hd hw.len hw.enc

end Dia
