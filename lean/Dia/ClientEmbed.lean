import Dia.ClientMultiThm
/-! The single-connection client model `Dia.Cl` is the one-connection slice of the multi-connection model `Dia.Cm`:
every run of the former is, label for label, a run of the latter after one `connect` (`step_lift`, `embed`). -/
namespace Dia.Cm
open Dia.Cl (Item Reader upd)

def lift (s : Cl.St) : St :=
  { nW := s.nW, hbhOf := s.hbhOf, status := s.status, cache := s.cache, closed := s.closed, nC := 1,
    wire := fun c => if c = 0 then s.wire else [], reader := fun c => if c = 0 then s.reader else .running,
    emitted := s.emitted, send := s.send, sentOn := fun _ => 0, started := s.started }

def liftL : Cl.Label → Label
  | .sendBegin h => .sendBegin h
  | .write => .write
  | .sendReturn => .sendReturn
  | .sendFail => .sendFail
  | .peerEmit it => .peerEmit 0 it
  | .readerDecode => .readerDecode 0
  | .readerRemove => .readerRemove 0
  | .readerDeliver => .readerDeliver 0
  | .readerStop => .readerStop 0

theorem St.ext' {a b : St} (h1 : a.nW = b.nW) (h2 : a.hbhOf = b.hbhOf) (h3 : a.status = b.status) (h4 : a.cache = b.cache)
    (h5 : a.closed = b.closed) (h6 : a.nC = b.nC) (h7 : a.wire = b.wire) (h8 : a.reader = b.reader)
    (h9 : a.emitted = b.emitted) (h10 : a.send = b.send) (h11 : a.sentOn = b.sentOn) (h12 : a.started = b.started) : a = b := by
  cases a; cases b; simp_all

theorem lift_init : step init .connect = some (lift Cl.init) := by
  simp only [step, init, lift, Cl.init]
  simp

/-- updating entry 0 of a function that is constant elsewhere -/
theorem upd_zero {α} (a b d : α) : upd (fun c => if c = 0 then a else d) 0 b = fun c => if c = 0 then b else d := by
  funext c; unfold upd; split <;> simp [*]

theorem upd_const_zero (k : Nat) : upd (fun _ => 0) k 0 = fun _ => 0 := by
  funext c; unfold upd; split <;> rfl

/-- on lifted states the multi-connection model does exactly what the single-connection model does, label for label:
the same steps are enabled and they lead to the lifted state -/
theorem step_lift (s : Cl.St) (l : Cl.Label) : step (lift s) (liftL l) = (Cl.step s l).map lift := by
  obtain ⟨nW, hbhOf, status, handed, cache, closed, wire, emitted, reader, send, started⟩ := s
  cases l <;> simp only [liftL, step, Cl.step, lift, upd_zero, upd_const_zero, Nat.sub_self, ↓reduceIte]
  case sendBegin hb => cases send <;> cases closed <;> rfl
  case write | sendReturn | sendFail => cases send <;> rfl
  case peerEmit it => rfl
  case readerDecode =>
    by_cases hr : reader = .running
    · subst hr; rcases wire with _ | ⟨_ | _, _⟩ <;> rfl
    · simp [hr]
  case readerRemove =>
    cases reader with
    | decoded m => dsimp only; cases cache m.hbh <;> rfl
    | _ => rfl
  case readerDeliver => cases reader <;> rfl
  case readerStop =>
    by_cases hr : reader = .stopping
    · subst hr; rfl
    · simp [hr]

theorem lift_step {s s' : Cl.St} (l : Cl.Label) (h : Cl.step s l = some s') :
    step (lift s) (liftL l) = some (lift s') := by
  rw [step_lift, h]; rfl

theorem run_lift (s : Cl.St) (ls : List Cl.Label) : run (lift s) (ls.map liftL) = (Cl.run s ls).map lift := by
  induction ls generalizing s with
  | nil => rfl
  | cons l ls ih =>
    simp only [List.map, run, Cl.run, step_lift]
    cases Cl.step s l with
    | none => rfl
    | some s1 => exact ih s1

theorem embed (ls : List Cl.Label) (s' : Cl.St) (h : Cl.run Cl.init ls = some s') :
    run init (.connect :: ls.map liftL) = some (lift s') := by
  simp only [run, lift_init]
  rw [run_lift, h]; rfl

/-- only connection 0 of a lifted state has a reader that ever left `running` ... -/
theorem lift_reader {s : Cl.St} {c : Nat} {r : Reader} (h : (lift s).reader c = r) (hr : r ≠ .running) :
    c = 0 ∧ s.reader = r := by
  cases c with
  | zero => exact ⟨rfl, h⟩
  | succ c => exact absurd h.symm hr

/-- ... and a wire with anything on it -/
theorem mem_lift_wire {s : Cl.St} {c : Nat} {i : Item} (h : i ∈ (lift s).wire c) : c = 0 ∧ i ∈ s.wire := by
  cases c with
  | zero => exact ⟨rfl, h⟩
  | succ c => cases h

end Dia.Cm
