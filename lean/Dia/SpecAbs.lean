import Dia.SpecEq
/-! Between model trees and spec trees. Forgetting the stored lengths of a consistent, well-formed tree (`abs`) gives
a valid spec tree with the same mask, typing and depth; computing the stored lengths and paddings of a valid spec tree
(`conc`) gives a consistent, well-formed model tree whose abstraction is the tree one started from. -/
namespace Dia
open Spec

theorem Value.abs_ty (v : Value) : v.abs.ty = tyOf v := by cases v <;> rfl

theorem Value.abs_bytes_len (v : Value) (hwf : v.WF) (hc : v.Cons) : v.abs.bytes.length = v.len := by
  have := (Value.enc_ok v hwf hc).2
  rwa [Value.enc_spec v hwf hc] at this

theorem leaf_abs_mask {v : Value} (h : tyOf v ≠ .grouped) : v.abs.mask = List.replicate v.abs.bytes.length .keep := by
  cases v <;> first | rfl | exact absurd rfl h

theorem tree_abs_mask : (∀ v : Value, v.WF → v.Cons → v.abs.mask = v.mask) ∧
    (∀ a : Avp, a.WF → a.Cons → a.abs.mask = a.mask) ∧
    ∀ ms : List Avp, WFList ms → ConsList ms → maskAvps (absList ms) = maskList ms := by
  refine Value.induct (fun v h hwf hc => ?_) (fun ms ih hwf hc => ?_)
    (fun code vendor m p len padding v ih hwf hc => ?_) (fun _ _ => rfl) (fun a as iha ihs hwf hc => ?_)
  · rw [leaf_abs_mask h, leaf_mask h, Value.abs_bytes_len v hwf hc]
  · simp only [Value.abs, SData.mask, Value.mask, ih hwf hc]
  · simp only [Avp.abs, SAvp.mask, Avp.mask, ih hwf.2 hc.2.2, Value.abs_bytes_len v hwf.2 hc.2.2, padTo4_eq, hc.2.1]
  · simp only [absList, maskAvps, maskList, iha hwf.1 hc.1, ihs hwf.2 hc.2]

theorem Value.abs_mask : ∀ v : Value, v.WF → v.Cons → v.abs.mask = v.mask := tree_abs_mask.1
theorem Avp.abs_mask : ∀ a : Avp, a.WF → a.Cons → a.abs.mask = a.mask := tree_abs_mask.2.1
theorem absList_mask : ∀ ms : List Avp, WFList ms → ConsList ms → maskAvps (absList ms) = maskList ms :=
  tree_abs_mask.2.2

theorem tree_abs_valid : (∀ v : Value, v.WF → v.Cons → v.abs.Valid) ∧ (∀ a : Avp, a.WF → a.Cons → a.abs.Valid) ∧
    ∀ ms : List Avp, WFList ms → ConsList ms → ValidAvps (absList ms) := by
  refine Value.induct (fun v h hwf _ => ?_) (fun ms ih hwf hc => ih hwf hc)
    (fun code vendor m p len padding v ih hwf hc => ?_) (fun _ _ => trivial)
    (fun a as iha ihs hwf hc => ⟨iha hwf.1 hc.1, ihs hwf.2 hc.2⟩)
  · cases v with
    | grouped ms => exact absurd rfl h
    | time s n =>
      simp only [Value.WF, Value.leafWF] at hwf
      simp only [Value.abs, SData.Valid, SData.leafValid, epoch_agrees]
      omega
    | address a => cases a <;> exact hwf
    | _ => exact hwf
  · simp only [Avp.abs, SAvp.Valid, hdrSize_eq, Value.abs_bytes_len v hwf.2 hc.2.2]
    exact ⟨by have := hc.1; have := hwf.1; omega, ih hwf.2 hc.2.2⟩

theorem Value.abs_valid : ∀ v : Value, v.WF → v.Cons → v.abs.Valid := tree_abs_valid.1
theorem Avp.abs_valid : ∀ a : Avp, a.WF → a.Cons → a.abs.Valid := tree_abs_valid.2.1
theorem absList_valid : ∀ ms : List Avp, WFList ms → ConsList ms → ValidAvps (absList ms) := tree_abs_valid.2.2

theorem tree_abs_typed (dict : Lookup) : (∀ v : Value, v.abs.Typed dict ↔ v.Typed dict) ∧
    (∀ a : Avp, a.abs.Typed dict ↔ a.Typed dict) ∧ ∀ ms : List Avp, TypedAvps dict (absList ms) ↔ TypedList dict ms := by
  refine Value.induct (fun v h => ?_) (fun ms ih => ?_) (fun code vendor m p len padding v ih => ?_) Iff.rfl
    (fun a as iha ihs => ?_)
  · cases v <;> first | exact Iff.rfl | exact absurd rfl h
  · simp only [Value.abs, SData.Typed, Value.Typed, ih]
  · simp only [Avp.abs, SAvp.Typed, Avp.Typed, Value.abs_ty, ih]
  · simp only [absList, TypedAvps, TypedList, iha, ihs]

theorem Value.abs_typed (dict : Lookup) : ∀ v : Value, v.abs.Typed dict ↔ v.Typed dict := (tree_abs_typed dict).1
theorem Avp.abs_typed (dict : Lookup) : ∀ a : Avp, a.abs.Typed dict ↔ a.Typed dict := (tree_abs_typed dict).2.1
theorem absList_typed (dict : Lookup) : ∀ ms : List Avp, TypedAvps dict (absList ms) ↔ TypedList dict ms :=
  (tree_abs_typed dict).2.2

theorem tree_abs_depth : (∀ v : Value, v.abs.depth = v.depth) ∧ (∀ a : Avp, a.abs.depth = a.depth) ∧
    ∀ ms : List Avp, depthAvps (absList ms) = depthList ms := by
  refine Value.induct (fun v h => ?_) (fun ms ih => ?_) (fun code vendor m p len padding v ih => ?_) rfl
    (fun a as iha ihs => ?_)
  · cases v <;> first | rfl | exact absurd rfl h
  · simp only [Value.abs, SData.depth, Value.depth, ih]
  · simp only [Avp.abs, SAvp.depth, Avp.depth, ih]
  · simp only [absList, depthAvps, depthList, iha, ihs]

theorem Value.abs_depth : ∀ v : Value, v.abs.depth = v.depth := tree_abs_depth.1
theorem Avp.abs_depth : ∀ a : Avp, a.abs.depth = a.depth := tree_abs_depth.2.1
theorem absList_depth : ∀ ms : List Avp, depthAvps (absList ms) = depthList ms := tree_abs_depth.2.2

mutual
def Spec.SData.conc : SData → Value
  | .grouped ms => .grouped (concAvps ms)
  | .address a => .address a | .ipv4 b => .ipv4 b | .ipv6 b => .ipv6 b | .identity b => .identity b | .uri b => .uri b
  | .enumerated b => .enumerated b | .float32 b => .float32 b | .float64 b => .float64 b
  | .integer32 b => .integer32 b | .integer64 b => .integer64 b | .octets b => .octets b
  | .time t => .time ((t : Int) - RFC868) 0
  | .unsigned32 b => .unsigned32 b | .unsigned64 b => .unsigned64 b | .utf8 b => .utf8 b
def Spec.SAvp.conc : SAvp → Avp
  | .mk code vendor m p d => .mk code vendor m p (hdrLen vendor + d.conc.len) (pad d.conc.len) d.conc
def concAvps : List SAvp → List Avp
  | [] => []
  | a :: as => a.conc :: concAvps as
end

mutual
private theorem ind_data {V : SData → Prop} {A : SAvp → Prop} {L : List SAvp → Prop}
    (leaf : ∀ d, d.ty ≠ .grouped → V d) (grouped : ∀ ms, L ms → V (.grouped ms))
    (avp : ∀ code vendor m p d, V d → A (.mk code vendor m p d))
    (nil : L []) (cons : ∀ a as, A a → L as → L (a :: as)) : ∀ d, V d
  | .grouped ms => grouped ms (ind_avps leaf grouped avp nil cons ms)
  | .address _ => leaf _ nofun | .ipv4 _ => leaf _ nofun | .ipv6 _ => leaf _ nofun | .identity _ => leaf _ nofun
  | .uri _ => leaf _ nofun | .enumerated _ => leaf _ nofun | .float32 _ => leaf _ nofun | .float64 _ => leaf _ nofun
  | .integer32 _ => leaf _ nofun | .integer64 _ => leaf _ nofun | .octets _ => leaf _ nofun | .time _ => leaf _ nofun
  | .unsigned32 _ => leaf _ nofun | .unsigned64 _ => leaf _ nofun | .utf8 _ => leaf _ nofun
private theorem ind_savp {V : SData → Prop} {A : SAvp → Prop} {L : List SAvp → Prop}
    (leaf : ∀ d, d.ty ≠ .grouped → V d) (grouped : ∀ ms, L ms → V (.grouped ms))
    (avp : ∀ code vendor m p d, V d → A (.mk code vendor m p d))
    (nil : L []) (cons : ∀ a as, A a → L as → L (a :: as)) : ∀ a, A a
  | .mk code vendor m p d => avp code vendor m p d (ind_data leaf grouped avp nil cons d)
private theorem ind_avps {V : SData → Prop} {A : SAvp → Prop} {L : List SAvp → Prop}
    (leaf : ∀ d, d.ty ≠ .grouped → V d) (grouped : ∀ ms, L ms → V (.grouped ms))
    (avp : ∀ code vendor m p d, V d → A (.mk code vendor m p d))
    (nil : L []) (cons : ∀ a as, A a → L as → L (a :: as)) : ∀ ms, L ms
  | [] => nil
  | a :: as => cons a as (ind_savp leaf grouped avp nil cons a) (ind_avps leaf grouped avp nil cons as)
end

/-- Induction over a spec tree, the counterpart of `Value.induct`. -/
theorem Spec.SData.induct {V : SData → Prop} {A : SAvp → Prop} {L : List SAvp → Prop}
    (leaf : ∀ d, d.ty ≠ .grouped → V d) (grouped : ∀ ms, L ms → V (.grouped ms))
    (avp : ∀ code vendor m p d, V d → A (.mk code vendor m p d))
    (nil : L []) (cons : ∀ a as, A a → L as → L (a :: as)) : (∀ d, V d) ∧ (∀ a, A a) ∧ ∀ ms, L ms :=
  ⟨ind_data leaf grouped avp nil cons, ind_savp leaf grouped avp nil cons, ind_avps leaf grouped avp nil cons⟩

theorem stree_conc_good : (∀ d : SData, d.Valid → d.conc.WF ∧ d.conc.Cons ∧ d.conc.abs = d) ∧
    (∀ a : SAvp, a.Valid → a.conc.WF ∧ a.conc.Cons ∧ a.conc.abs = a) ∧
    ∀ ms : List SAvp, ValidAvps ms → WFList (concAvps ms) ∧ ConsList (concAvps ms) ∧ absList (concAvps ms) = ms := by
  refine SData.induct (fun d h hv => ?_) (fun ms ih hv => ?_) (fun code vendor m p d ih hv => ?_)
    (fun _ => ⟨trivial, trivial, rfl⟩) (fun a as iha ihs hv => ?_)
  · cases d with
    | grouped ms => exact absurd rfl h
    | time t =>
      simp only [SData.Valid, SData.leafValid] at hv
      refine ⟨⟨rfl, by omega, by omega⟩, trivial, ?_⟩
      simp only [SData.conc, Value.abs, epoch_agrees]
      congr 1
      omega
    | address a => cases a <;> exact ⟨hv, trivial, rfl⟩
    | _ => exact ⟨hv, trivial, rfl⟩
  · obtain ⟨h1, h2, h3⟩ := ih hv
    simp only [SData.conc, Value.abs, h3]
    exact ⟨h1, h2, trivial⟩
  · obtain ⟨h1, h2, h3⟩ := ih hv.2
    have hl := Value.abs_bytes_len d.conc h1 h2
    have h24 := hv.1
    rw [h3] at hl
    rw [hdrSize_eq] at h24
    simp only [SAvp.conc, Avp.abs, h3]
    exact ⟨⟨by omega, h1⟩, ⟨rfl, rfl, h2⟩, trivial⟩
  · obtain ⟨a1, a2, a3⟩ := iha hv.1
    obtain ⟨s1, s2, s3⟩ := ihs hv.2
    simp only [concAvps, absList, a3, s3]
    exact ⟨⟨a1, s1⟩, ⟨a2, s2⟩, trivial⟩

theorem SData.conc_good : ∀ d : SData, d.Valid → d.conc.WF ∧ d.conc.Cons ∧ d.conc.abs = d := stree_conc_good.1
theorem SAvp.conc_good : ∀ a : SAvp, a.Valid → a.conc.WF ∧ a.conc.Cons ∧ a.conc.abs = a := stree_conc_good.2.1
theorem concAvps_good : ∀ ms : List SAvp, ValidAvps ms →
    WFList (concAvps ms) ∧ ConsList (concAvps ms) ∧ absList (concAvps ms) = ms := stree_conc_good.2.2

/- every nesting level costs at least the 8 octets of an AVP header -/
theorem stree_depth_le : (∀ d : SData, 8 * d.depth ≤ d.bytes.length + 8) ∧ (∀ a : SAvp, 8 * a.depth ≤ a.encode.length) ∧
    ∀ ms : List SAvp, 8 * depthAvps ms ≤ (encodeAvps ms).length := by
  refine SData.induct (fun d h => ?_) (fun ms ih => ?_) (fun code vendor m p d ih => ?_) (Nat.le_refl _)
    (fun a as iha ihs => ?_)
  · have : d.depth = 0 := by cases d <;> first | rfl | exact absurd rfl h
    omega
  · simp only [SData.depth, SData.bytes]; omega
  · rw [SAvp.encode_length, SAvp.depth]
    cases vendor <;> simp only [hdrSize] <;> omega
  · simp only [depthAvps, encodeAvps, List.length_append]
    omega

theorem SData.depth_le : ∀ d : SData, 8 * d.depth ≤ d.bytes.length + 8 := stree_depth_le.1
theorem SAvp.depth_le : ∀ a : SAvp, 8 * a.depth ≤ a.encode.length := stree_depth_le.2.1
theorem depthAvps_le : ∀ ms : List SAvp, 8 * depthAvps ms ≤ (encodeAvps ms).length := stree_depth_le.2.2

end Dia
