import Dia.Enc
/-! The AVP header decoder and the leaf decoders, each characterised in both directions: a decode that succeeds was ONE read
of the octets that the result encodes to (`decHdr_ok`, `decLeaf_ok`), and reading an encoding gives the value back (`_rt`);
none of them panics or runs out of fuel. -/
namespace Dia

theorem hdrLen_ge (v : Option UInt32) : 8 ≤ hdrLen v := by cases v <;> simp [hdrLen]

/-- a flags octet under the mask `0xE0` is made of its three flag bits (all 256 octets, evaluated) -/
theorem flags_all : ∀ n : Fin 256, let b : UInt8 := UInt8.ofNat n.val
    b &&& 0xE0 = (if b &&& 0x80 != 0 then 0x80 else 0) ||| (if b &&& 0x40 != 0 then 0x40 else 0) ||| (if b &&& 0x20 != 0 then 0x20 else (0:UInt8)) := by
  decide +kernel

theorem flags_u8 (b : UInt8) :
    b &&& 0xE0 = (if b &&& 0x80 != 0 then 0x80 else 0) ||| (if b &&& 0x40 != 0 then 0x40 else 0) ||| (if b &&& 0x20 != 0 then 0x20 else (0:UInt8)) := by
  have := flags_all ⟨b.toNat, b.toNat_lt⟩
  simp only [UInt8.ofNat_toNat] at this
  exact this

/-- three flag bits determine the masked value, so the flag bits of a (possibly noisy) flags octet are those of its
masked value -/
theorem flags_bits (b : UInt8) (v m p : Bool)
    (h : b &&& 0xE0 = ((if v then 0x80 else 0) ||| (if m then 0x40 else 0) ||| (if p then 0x20 else (0:UInt8)))) :
    (b &&& 0x80 != 0) = v ∧ (b &&& 0x40 != 0) = m ∧ (b &&& 0x20 != 0) = p := by
  have inj : ∀ v' m' p' v m p : Bool,
      ((if v' then 0x80 else 0) ||| (if m' then 0x40 else 0) ||| (if p' then 0x20 else (0:UInt8))) =
        ((if v then 0x80 else 0) ||| (if m then 0x40 else 0) ||| (if p then 0x20 else 0)) → v' = v ∧ m' = m ∧ p' = p := by
    decide
  exact inj _ _ _ v m p ((flags_u8 b).symm.trans h)

/-- the eight octets every header has spell a 32-bit code, a flags octet and a 24-bit length -/
theorem hdr8 {h : Bytes} (hl : h.length = 8) :
    applyMask h [.keep, .keep, .keep, .keep, .flags, .keep, .keep, .keep] =
        be32 (fromBe (h.take 4)) ++ (h.getD 4 0 &&& 0xE0) :: be24 (fromBe (h.drop 5)) ∧
      fromBe (h.take 4) < 4294967296 ∧ fromBe (h.drop 5) < 16777216 := by
  obtain ⟨b0, b1, b2, b3, b4, b5, b6, b7, rfl⟩ := list_len8 hl
  refine ⟨?_, fromBe4_lt .., fromBe3_lt ..⟩
  simp only [List.take, List.drop, be32_fromBe, be24_fromBe]
  rfl

/-- a header that decodes was one read of `hdrLen` octets which, reserved flag bits aside, are the header's encoding -/
theorem decHdr_ok {c c' : Cur} {h : Hdr} (hd : decHdr c = .ok (h, c')) :
    h.len < 16777216 ∧ ∃ hb, c.read (hdrLen h.vendor) = .ok (hb, c') ∧
      applyMask hb (maskHdr h.vendor) = hdrBytes h.code h.vendor h.m h.p h.len := by
  unfold decHdr at hd
  simp only [Out.bind_eq_ok] at hd
  obtain ⟨⟨b8, c1⟩, hr, hd⟩ := hd
  obtain ⟨h8, hcode, hlen⟩ := hdr8 (Cur.read_len hr)
  dsimp only at hd
  split at hd
  · rename_i hv
    simp only [Out.bind_eq_ok] at hd
    obtain ⟨⟨vb, c2⟩, hr2, hd⟩ := hd
    cases hd
    refine ⟨hlen, _, Cur.read_read hr hr2, ?_⟩
    have hvb := be32_fromBe_len (Cur.read_len hr2)
    have hk : applyMask vb [.keep, .keep, .keep, .keep] = vb := applyMask_keep (n := 4) (Cur.read_len hr2)
    dsimp only
    simp only [maskHdr, hdrBytes, flagsByte, Option.isSome_some, if_true]
    rw [applyMask_append (Cur.read_len hr), h8, hk, flags_u8, if_pos hv]
    rw [UInt32.toNat_ofNat_of_lt' hcode, UInt32.toNat_ofNat_of_lt' hvb.2, hvb.1]
  · rename_i hv
    cases hd
    refine ⟨hlen, _, hr, ?_⟩
    dsimp only
    simp only [maskHdr, hdrBytes, flagsByte, Option.isSome_none, Bool.false_eq_true, if_false, List.append_nil]
    rw [h8, flags_u8, if_neg hv, UInt32.toNat_ofNat_of_lt' hcode]

theorem decHdr_adv {c c' : Cur} {h : Hdr} (hd : decHdr c = .ok (h, c')) :
    c.isIn ∧ c'.vlen = c.vlen - hdrLen h.vendor ∧ c'.rem + hdrLen h.vendor = c.rem := by
  obtain ⟨_, hb, hr, _⟩ := decHdr_ok hd
  have := hdrLen_ge h.vendor
  rcases Cur.read_ok hr with ⟨h0, _⟩ | ⟨r, rfl, rfl, hl⟩
  · omega
  · simp [Cur.isIn, Cur.vlen, Cur.rem, ← hl]; omega

theorem decHdr_safe {p f : Prop} (c : Cur) : (decHdr c).Safe p f := by
  unfold decHdr
  refine (Cur.read_safe _ _).bind fun ⟨h, c1⟩ _ => ?_
  dsimp only
  split
  · exact (Cur.read_safe _ _).bind fun _ _ => Out.Safe.ok _
  · exact Out.Safe.ok _

theorem decHdr_rt {code : UInt32} {vendor : Option UInt32} {m p : Bool} {len : Nat} {hb r : Bytes}
    (hl : hb.length = (maskHdr vendor).length)
    (he : applyMask hb (maskHdr vendor) = hdrBytes code vendor m p len) (hlen : len < 16777216) :
    decHdr (.inRange (hb ++ r)) = .ok (⟨code, vendor, m, p, len⟩, .inRange r) := by
  -- the eight octets every header has, then the vendor id if there is one
  obtain ⟨h8, vb, rfl, hl8, hlv, he8, hev⟩ := applyMask_split hl he rfl
  obtain ⟨e8, hcode, hlen8⟩ := hdr8 hl8
  obtain ⟨ec, er⟩ := List.append_inj (e8.symm.trans he8) rfl
  obtain ⟨ef, el⟩ := List.cons.inj er
  have hfl := flags_bits _ vendor.isSome m p ef
  unfold decHdr
  rw [List.append_assoc, Cur.read_append (n := 8) _ hl8]
  simp only [Out.bind_ok]
  -- the numbers read spell the octets that `code` and `len` spell, so they are `code` and `len`
  rw [← fromBe_be32 _ hcode, ec, fromBe_be32 _ code.toNat_lt, ← fromBe_be24 _ hlen8, el, fromBe_be24 _ hlen]
  rw [hfl.1, hfl.2.1, hfl.2.2]
  cases vendor with
  | none =>
    cases List.eq_nil_of_length_eq_zero hlv
    simp
  | some vid =>
    have hv : vb = be32 vid.toNat := (applyMask_keep hlv).symm.trans hev
    rw [if_pos (by rfl : (some vid).isSome = true), hv, Cur.read_append (n := 4) r rfl]
    simp only [Out.bind_ok]
    rw [fromBe_be32 _ vid.toNat_lt]
    simp

theorem ofFixed_ok {ty : Ty} {n : Nat} {b : Bytes} (hn : fixedSize ty = some n) (hb : b.length = n) :
    tyOf (ofFixed ty b) = ty ∧ (ofFixed ty b).len = n ∧ (ofFixed ty b).WF ∧ (ofFixed ty b).enc = ⟨b, none⟩ := by
  cases ty <;> simp only [fixedSize, Option.some.injEq, reduceCtorEq] at hn <;> subst hn
  case time =>
    have hlt := (be32_fromBe_len hb).2
    refine ⟨rfl, rfl, ⟨rfl, by omega, by omega⟩, ?_⟩
    simp only [ofFixed, Value.enc]
    rw [if_neg (by omega), if_neg (by omega), show ((fromBe b : Int) - RFC868 + RFC868).toNat = fromBe b by omega,
      (be32_fromBe_len hb).1]
    rfl
  all_goals
    simp [ofFixed, tyOf, Value.len, Value.WF, Value.leafWF, Value.enc, Enc.ok, hb, fromBe_mod32, fromBe_mod64,
      be32_fromBe_len, be64_fromBe_len]

/-- so distinct octet strings of the right size give distinct values -/
theorem ofFixed_injective {ty : Ty} {n : Nat} {x y : Bytes} (hn : fixedSize ty = some n) (hx : x.length = n)
    (hy : y.length = n) (h : ofFixed ty x = ofFixed ty y) : x = y := by
  have ex := (ofFixed_ok hn hx).2.2.2
  rw [h, (ofFixed_ok hn hy).2.2.2] at ex
  exact (Enc.mk.inj ex).1.symm

theorem decAddr_post (vl : Nat) (c : Cur) : (decAddr vl c).Post fun (v, c') =>
    tyOf v = .address ∧ tyOf v ≠ .grouped ∧ v.WF ∧ v.len = vl ∧ ∃ b, c.read v.len = .ok (b, c') ∧ v.enc = ⟨b, none⟩ := by
  unfold decAddr
  refine (Cur.read_post c 2).bind fun ⟨f, c1⟩ hr => ?_
  dsimp only
  split
  · split
    · exact .err nofun
    · exact (Cur.read_post c1 4).bind fun ⟨b, c2⟩ hr2 =>
        .ok ⟨rfl, nofun, Cur.read_len hr2, show 6 = vl by omega, _, Cur.read_read hr hr2, rfl⟩
  · split
    · exact .err nofun
    · exact (Cur.read_post c1 16).bind fun ⟨b, c2⟩ hr2 =>
        .ok ⟨rfl, nofun, Cur.read_len hr2, show 18 = vl by omega, _, Cur.read_read hr hr2, rfl⟩
  · split
    · exact .err nofun
    · split
      · exact .err nofun
      · -- `vl - 2` neither wraps nor exceeds the 15-octet buffer: the panic is not reached
        rw [checkedSub_of_le (by omega)]
        simp only [Out.bind_ok]
        rw [if_neg (by omega)]
        refine (Cur.read_post c1 _).bind fun ⟨b, c2⟩ hr2 => ?_
        dsimp only
        split
        · have hl : vl - 2 = b.length := (Cur.read_len hr2).symm
          have hr' : c.read (2 + b.length) = _ := hl ▸ Cur.read_read hr hr2
          exact .ok ⟨rfl, nofun, ⟨by omega, by omega, ‹_›⟩, show 2 + b.length = vl by omega, _, hr', rfl⟩
        · exact .err nofun
  · exact .err nofun

/-- a leaf that decodes was one read of the octets it encodes to -/
theorem decLeaf_post (cfg : Cfg) (ty : Ty) (vl : Nat) (c : Cur) : (decLeaf cfg ty vl c).Post fun (v, c') =>
    tyOf v = ty ∧ tyOf v ≠ .grouped ∧ v.WF ∧ v.len = (fixedSize ty).getD vl ∧
      ∃ b, c.read v.len = .ok (b, c') ∧ v.enc = ⟨b, none⟩ := by
  unfold decLeaf
  split
  · rename_i n hn
    split
    · exact .err nofun
    · split
      · exact .err nofun
      · refine (Cur.read_post c n).bind fun ⟨b, c2⟩ hr => .ok ?_
        obtain ⟨h1, h2, h3, h4⟩ := ofFixed_ok hn (Cur.read_len hr)
        refine ⟨h1, ?_, h3, ?_, b, ?_, h4⟩
        · rw [h1]; rintro rfl; cases hn
        · rw [h2, hn]; rfl
        · rwa [h2]
  · split
    · exact decAddr_post vl c
    · refine (Cur.read_post c vl).bind fun ⟨b, c2⟩ hr => ?_
      have hl : (Value.utf8 b).len = vl := Cur.read_len hr
      dsimp only
      split
      · exact .ok ⟨rfl, nofun, ‹_›, hl, b, hl ▸ hr, rfl⟩
      · exact .err nofun
    · refine (Cur.read_post c vl).bind fun ⟨b, c2⟩ hr => ?_
      have hl : (Value.identity b).len = vl := Cur.read_len hr
      dsimp only
      split
      · exact .ok ⟨rfl, nofun, ‹_›, hl, b, hl ▸ hr, rfl⟩
      · exact .err nofun
    · refine (Cur.read_post c vl).bind fun ⟨b, c2⟩ hr => ?_
      have hl : (Value.octets b).len = vl := Cur.read_len hr
      exact .ok ⟨rfl, nofun, trivial, hl, b, hl ▸ hr, rfl⟩
    · refine (Cur.read_post c vl).bind fun ⟨b, c2⟩ hr => ?_
      have hl : (Value.uri b).len = vl := Cur.read_len hr
      exact .ok ⟨rfl, nofun, trivial, hl, b, hl ▸ hr, rfl⟩
    · exact .err nofun

theorem decLeaf_ok {cfg : Cfg} {ty : Ty} {vl : Nat} {c c' : Cur} {v : Value} (h : decLeaf cfg ty vl c = .ok (v, c')) :
    tyOf v = ty ∧ tyOf v ≠ .grouped ∧ v.WF ∧ v.len = (fixedSize ty).getD vl ∧
      ∃ b, c.read v.len = .ok (b, c') ∧ v.enc = ⟨b, none⟩ :=
  (decLeaf_post cfg ty vl c).of_ok h

theorem decLeaf_safe {p f : Prop} (cfg : Cfg) (ty : Ty) (vl : Nat) (c : Cur) : (decLeaf cfg ty vl c).Safe p f :=
  (decLeaf_post cfg ty vl c).safe

/-- without a length lie the declared length of a leaf is the length of its value -/
theorem decLeaf_len {cfg : Cfg} {ty : Ty} {vl : Nat} {c c' : Cur} {v : Value} (h : decLeaf cfg ty vl c = .ok (v, c'))
    (hfix : ∀ n, fixedSize (tyOf v) = some n → vl = n) : v.len = vl := by
  obtain ⟨hty, _, _, hl, _⟩ := decLeaf_ok h
  subst hty
  cases hf : fixedSize (tyOf v) with
  | none => rw [hl, hf]; rfl
  | some n => rw [hl, hf, hfix n hf]; rfl

def LeafInv (ty : Ty) (vl : Nat) (c c' : Cur) (v : Value) : Prop :=
  tyOf v = ty ∧ v.len = vl ∧ v.WF ∧ v.Cons ∧ v.NoLie ∧ (c'.isIn ↔ c.isIn) ∧
  (∀ r', c' = .inRange r' → ∃ vb, c = .inRange (vb ++ r') ∧ vb.length = vl ∧ v.enc = ⟨vb, none⟩ ∧
      v.mask = List.replicate vl .keep)

theorem decLeaf_inv {cfg : Cfg} {ty : Ty} {vl : Nat} {c c' : Cur} {v : Value}
    (h : decLeaf cfg ty vl c = .ok (v, c')) (hfix : ∀ n, fixedSize ty = some n → vl = n) :
    LeafInv ty vl c c' v := by
  obtain ⟨hty, hng, hwf, hl, b, hr, he⟩ := decLeaf_ok h
  have hvl : v.len = vl := decLeaf_len h (hty ▸ hfix)
  refine ⟨hty, hvl, hwf, leaf_cons hng, leaf_nolie hng, Cur.read_isIn hr, fun r' hr' => ?_⟩
  subst hr'
  exact ⟨b, Cur.read_inRange hr, hvl ▸ Cur.read_len hr, he, hvl ▸ leaf_mask hng⟩

theorem decLeaf_fixed_rt {cfg : Cfg} {ty : Ty} {n : Nat} {vb r : Bytes} (hn : fixedSize ty = some n)
    (hl : vb.length = n) : decLeaf cfg ty n (.inRange (vb ++ r)) = .ok (ofFixed ty vb, .inRange r) := by
  unfold decLeaf
  rw [hn]
  simp only
  rw [if_neg (by omega), if_neg (by omega), Cur.read_append _ hl]
  rfl

theorem decAddr_rt {a : Addr} {vb r : Bytes} (hwf : (Value.address a).WF) (henc : (Value.address a).enc = ⟨vb, none⟩) :
    decAddr (Value.address a).len (.inRange (vb ++ r)) = .ok (.address a, .inRange r) := by
  unfold decAddr
  cases a <;> cases henc <;> simp only [Value.WF, Value.leafWF] at hwf <;>
    rw [List.append_assoc, Cur.read_append (n := 2) _ rfl] <;> simp only [Out.bind_ok, Value.len]
  · rw [Cur.read_append _ hwf]; rfl
  · rw [Cur.read_append _ hwf]; rfl
  · rw [if_neg (by omega), if_neg (by omega), checkedSub_of_le (by omega)]
    simp only [Out.bind_ok]
    rw [if_neg (by omega), Cur.read_append _ (by omega)]
    simp [hwf.2.2]

theorem decLeaf_rt {cfg : Cfg} {v : Value} {vb r : Bytes} (hwf : v.WF) (hng : tyOf v ≠ .grouped)
    (henc : v.enc = ⟨vb, none⟩) :
    decLeaf cfg (tyOf v) v.len (.inRange (vb ++ r)) = .ok (v, .inRange r) := by
  have fixed : ∀ {n}, fixedSize (tyOf v) = some n → vb.length = n → ofFixed (tyOf v) vb = v →
      decLeaf cfg (tyOf v) v.len (.inRange (vb ++ r)) = .ok (v, .inRange r) := fun hn hl ho => by
    rw [fixed_len hn, decLeaf_fixed_rt hn hl, ho]
  cases v with
  | grouped ms => exact absurd rfl hng
  | time secs nanos =>
    obtain ⟨rfl, hlo, hhi⟩ := hwf
    simp only [Value.enc] at henc
    rw [if_neg (by omega), if_neg (by omega)] at henc
    cases henc
    refine fixed rfl rfl ?_
    simp only [ofFixed, tyOf]
    rw [fromBe_be32 _ (by omega), show (((secs + RFC868).toNat : Nat) : Int) - RFC868 = secs by omega]
  | address a => exact decAddr_rt hwf henc
  | ipv4 b | ipv6 b =>
    cases henc
    exact fixed rfl hwf rfl
  | enumerated x | float32 x | float64 x | integer32 x | integer64 x | unsigned32 x | unsigned64 x =>
    cases henc
    exact fixed rfl rfl (by simp [ofFixed, tyOf, u32_rt, u64_rt])
  | octets b | uri b | utf8 b | identity b =>
    cases henc
    simp only [Value.WF, Value.leafWF] at hwf
    simp only [tyOf, Value.len, decLeaf, fixedSize]
    rw [Cur.read_append _ rfl]
    simp [hwf]

/-- a decoder that is lenient for no type returns a fixed-size value only under its natural length -/
theorem decLeaf_strict_len {cfg : Cfg} {ty : Ty} {n vl : Nat} {c c' : Cur} {v : Value}
    (hs : ∀ t d, cfg.lenient t d = false) (hn : fixedSize ty = some n)
    (h : decLeaf cfg ty vl c = .ok (v, c')) : vl = n := by
  unfold decLeaf at h
  rw [hn] at h
  simp only [hs] at h
  split at h
  · cases h
  · split at h
    · cases h
    · rename_i h1 h2
      simp at h1 h2
      omega

end Dia
