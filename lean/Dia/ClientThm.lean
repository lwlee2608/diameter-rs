import Dia.ClientEmbed
/-! The invariant of the single-connection client transition system (all runs). It is the invariant of the multi-connection
model read on lifted states, up to what the two say about `closed`; so its preservation is inherited from there. -/
namespace Dia.Cl

structure Inv (s : St) : Prop where
  cache_ok : ∀ h w, s.cache h = some w → w < s.nW ∧ s.hbhOf w = h ∧ s.status w = .pending
  got_ok : ∀ w m, w < s.nW → s.status w = .got m → m.hbh = s.hbhOf w ∧ m ∈ s.emitted
  dec_ok : ∀ m, s.reader = .decoded m → m ∈ s.emitted
  rem_ok : ∀ m w, s.reader = .removed m w →
      m ∈ s.emitted ∧ w < s.nW ∧ s.hbhOf w = m.hbh ∧ s.status w = .pending ∧ s.cache (s.hbhOf w) ≠ some w
  wire_ok : ∀ m, Item.msg m ∈ s.wire → m ∈ s.emitted
  pending_ok : ∀ w, w < s.nW → s.status w = .pending →
      s.cache (s.hbhOf w) = some w ∨ ∃ m, s.reader = .removed m w
  stopped_ok : s.reader = .stopped → s.closed = true ∧ ∀ h, s.cache h = none

theorem inv_init : Inv init := by
  constructor <;> simp [init]

end Dia.Cl

namespace Dia.Cm
open Dia.Cl (upd old_of_upd)

theorem inv₀_lift {s : Cl.St} (hi : Cl.Inv s) : Inv₀ (lift s) :=
  { cache_ok := hi.cache_ok, got_ok := hi.got_ok
    dec_ok := fun _ m h => hi.dec_ok m (lift_reader h nofun).2
    rem_ok := fun _ m w h => hi.rem_ok m w (lift_reader h nofun).2
    rem_uniq := fun _ _ _ _ _ h h' => (lift_reader h nofun).1.trans (lift_reader h' nofun).1.symm
    wire_ok := fun _ m h => hi.wire_ok m (mem_lift_wire h).2
    pending_ok := fun w hw hp => (hi.pending_ok w hw hp).imp_right fun ⟨m, h⟩ => ⟨0, m, h⟩ }

theorem inv_of_lift₀ {s : Cl.St} (hi : Inv₀ (lift s)) (hs : s.reader = .stopped → s.closed = true ∧ ∀ h, s.cache h = none) :
    Cl.Inv s :=
  { cache_ok := hi.cache_ok, got_ok := hi.got_ok, dec_ok := hi.dec_ok 0, rem_ok := hi.rem_ok 0, wire_ok := hi.wire_ok 0
    pending_ok := fun w hw hp => (hi.pending_ok w hw hp).imp_right fun ⟨_, m, h⟩ => ⟨m, (lift_reader h nofun).2⟩
    stopped_ok := hs }

theorem inv_of_lift {s : Cl.St} (hi : Inv (lift s)) : Cl.Inv s :=
  inv_of_lift₀ { hi with } fun h => ⟨hi.stopped_ok 0 h, hi.closed_ok (hi.stopped_ok 0 h)⟩

/-- `Cl.Inv` leaves open whether a closed table is empty while the reader has not stopped, `Inv.closed_ok` does not:
hence the two hypotheses -/
theorem inv_lift {s : Cl.St} (hi : Cl.Inv s) (hc : s.closed = false) (hr : s.reader ≠ .stopped) : Inv (lift s) :=
  { inv₀_lift hi with
    closed_ok := fun h => nomatch hc.symm.trans h
    stopped_ok := fun _ h => absurd (lift_reader h nofun).2 hr }

/-- a reader stops only in `stop`, which closes and empties the table; afterwards nothing is registered, `closed` being set -/
theorem stopped_empty_step {s s' : St} {l : Label} (c : Nat)
    (hs : s.reader c = .stopped → s.closed = true ∧ ∀ h, s.cache h = none) (h : step s l = some s') :
    s'.reader c = .stopped → s'.closed = true ∧ ∀ h, s'.cache h = none := by
  cases step_some h with
  | stop => exact fun _ => ⟨rfl, fun _ => rfl⟩
  | register hb _ _ hcl => exact fun hr => absurd ((hs hr).1.symm.trans hcl) nofun
  | remove c' m w =>
    intro hr
    have := hs (old_of_upd hr nofun)
    exact ⟨this.1, fun h => by simp [upd, this.2]⟩
  | decode | undecodable | unmatched | deliver => exact fun hr => hs (old_of_upd hr nofun)
  | _ => exact hs

end Dia.Cm

namespace Dia.Cl

theorem inv_step {s s' : St} (l : Label) (hi : Inv s) (h : step s l = some s') : Inv s' :=
  Cm.inv_of_lift₀ (Cm.inv₀_step _ (Cm.inv₀_lift hi) (Cm.lift_step l h)) (Cm.stopped_empty_step 0 hi.stopped_ok (Cm.lift_step l h))

theorem inv_run {s s' : St} (ls : List Label) (hi : Inv s) (h : run s ls = some s') : Inv s' := by
  induction ls generalizing s with
  | nil => cases h; exact hi
  | cons l ls ih =>
    simp only [run] at h
    split at h
    · exact ih (inv_step l hi ‹_›) h
    · cases h

end Dia.Cl
