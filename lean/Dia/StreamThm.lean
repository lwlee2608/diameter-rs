import Dia.Stream
/-! `read_exact` over a script of `poll_read` outcomes. Every induction follows the equations of `readExact`
(`fun_induction`): the count is spent, the script is exhausted, `Pending`, end of stream, an i/o error, an empty chunk,
a chunk that suffices, a chunk that does not. -/
namespace Dia

/-- a script on which `flat` is all that matters: up to its end no read fails and none delivers zero octets (`readExact`
takes an empty chunk for the end of the stream, `flat` skips it) -/
def noEmpty : List REv → Prop
  | [] => True
  | .data bs :: r => bs ≠ [] ∧ noEmpty r
  | .pending :: r => noEmpty r
  | .eof :: _ => True
  | .fail :: _ => False

theorem RO.taken_prepend (b : Bytes) (o : RO) : (o.prepend b).taken = b.length + o.taken := by
  cases o <;> simp [RO.prepend, RO.taken]

theorem readExact_taken : ∀ (n : Nat) (evs : List REv), (readExact n evs).1.taken ≤ n := by
  intro n evs
  fun_induction readExact n evs with
  | case3 _ _ ih => exact ih
  | case7 => simp [RO.taken]; omega
  | case8 n bs r _ _ o r' hx ih =>
    rw [hx] at ih
    simp only [RO.taken_prepend] at ih ⊢
    omega
  | _ => simp [RO.taken]

theorem readExact_ok_len : ∀ (n : Nat) (evs : List REv) (p : Bytes) (evs1 : List REv),
    readExact n evs = (.ok p, evs1) → p.length = n := by
  intro n evs
  fun_induction readExact n evs with
  | case1 => intro p evs1 h; cases h; rfl
  | case3 _ _ ih => exact ih
  | case7 => intro p evs1 h; cases h; simp; omega
  | case8 n bs r _ _ o r' hx ih =>
    intro p evs1 h
    cases o <;> cases h
    simp [ih _ _ hx]; omega
  | _ => intro p evs1 h; cases h

/-- `read_exact` on a well-behaved script is a function of the octets delivered: the next `n` of them if there are as many,
end of stream with all of them if not; what is left of the script is well behaved and delivers the rest -/
theorem readExact_spec : ∀ (n : Nat) (evs : List REv), noEmpty evs →
    (readExact n evs).1 = (if n ≤ (flat evs).length then .ok ((flat evs).take n) else .eof (flat evs)) ∧
    flat (readExact n evs).2 = (flat evs).drop n ∧ noEmpty (readExact n evs).2 := by
  intro n evs hne
  fun_induction readExact n evs with
  | case1 evs => exact ⟨rfl, rfl, hne⟩
  | case3 _ _ ih => exact ih hne
  | case5 => exact hne.elim
  | case6 _ _ _ h0 => exact absurd (List.eq_nil_of_length_eq_zero h0) hne.1
  | case7 n bs r _ hle =>
    refine ⟨?_, ?_, ?_⟩
    · simp [flat, List.take_append_of_le_length hle, Nat.le_add_right_of_le hle]
    · simp only [flat, List.drop_append_of_le_length hle]
      split
      · simp [*]
      · rfl
    · split
      · exact hne.2
      · exact ⟨by simp; omega, hne.2⟩
  | case8 n bs r _ hgt o r' hx ih =>
    have hgt := Nat.le_of_lt (Nat.lt_of_not_le hgt)
    rw [hx] at ih
    obtain ⟨h1, h2, h3⟩ := ih hne.2
    obtain rfl : o = _ := h1
    refine ⟨?_, ?_, h3⟩
    · simp only [flat, List.length_append]
      by_cases h : n + 1 - bs.length ≤ (flat r).length
      · rw [if_pos h, if_pos (by omega)]
        simp [RO.prepend, List.take_append, List.take_of_length_le hgt]
      · rw [if_neg h, if_neg (by omega)]
        rfl
    · simp [flat, h2, List.drop_append, List.drop_eq_nil_of_le hgt]
  | _ => exact ⟨rfl, rfl, trivial⟩

/-- segmentation independence of `read_exact`: the result depends only on the octets the script delivers -/
theorem readExact_flat : ∀ (n : Nat) (evs : List REv), noEmpty evs → n ≤ (flat evs).length →
    ∃ evs', readExact n evs = (.ok ((flat evs).take n), evs') ∧ flat evs' = (flat evs).drop n ∧ noEmpty evs' := by
  intro n evs hne h
  obtain ⟨h1, h2, h3⟩ := readExact_spec n evs hne
  exact ⟨_, Prod.ext (by rw [h1, if_pos h]) rfl, h2, h3⟩

/-- the form in which `readExact_flat` is used: the script delivers `a` and then `b` -/
theorem readExact_append (evs : List REv) (a b : Bytes) (hne : noEmpty evs) (hflat : flat evs = a ++ b) :
    ∃ evs', readExact a.length evs = (.ok a, evs') ∧ flat evs' = b ∧ noEmpty evs' := by
  simpa [hflat] using readExact_flat a.length evs hne (by simp [hflat])

/-- fewer octets than asked for, then the end of a well-behaved script: `read_exact` reports end of stream -/
theorem readExact_short : ∀ (n : Nat) (evs : List REv), noEmpty evs → (flat evs).length < n →
    ∃ got evs', readExact n evs = (.eof got, evs') := by
  intro n evs hne h
  exact ⟨_, _, Prod.ext (by rw [(readExact_spec n evs hne).1, if_neg (by omega)]) rfl⟩

end Dia
