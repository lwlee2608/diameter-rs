import Dia.Client
import Dia.Props.C02
import Dia.Props.C06
import Dia.Props.C08
/-! From octets to the client model's wire items (`itemsOf`), and server and client put together: what the per-connection loop
of the server writes is, to the reader of a client, exactly the handler's answers - for every segmentation in either direction. -/
namespace Dia

/-- the client model's view of a message: its hop-by-hop id and its end-to-end id as identity -/
def Msg.item (m : Msg) : Cl.Item := .msg ⟨m.hbh.toNat, m.e2e.toNat⟩

/-- the items the reader loop of `handle` extracts from a read script: one per decoded message, then `bad` -/
def itemsOf (cfg : Cfg) (dict : Lookup) : Nat → List REv → List Cl.Item
  | 0, _ => []
  | n+1, evs =>
    let r := Codec.decode cfg dict evs
    match r.out with
    | .ok m => m.item :: itemsOf cfg dict n r.rest
    | _ => [.bad]

/-- `itemsOf` is the item view of `decodeSeq` -/
theorem itemsOf_decodeSeq (cfg : Cfg) (dict : Lookup) : ∀ (n : Nat) (evs : List REv),
    itemsOf cfg dict n evs = (decodeSeq cfg dict n evs).map fun r =>
      match r.1 with | .ok m => m.item | _ => .bad
  | 0, _ => rfl
  | n+1, evs => by
    simp only [itemsOf, decodeSeq]
    cases (Codec.decode cfg dict evs).out <;> simp [itemsOf_decodeSeq cfg dict n]

/-- answer segmentation is irrelevant to the client (`C11_segmentation_irrelevant`) -/
theorem itemsOf_frames (cfg : Cfg) (dict : Lookup) (frames : List Bytes) (msgs : List Msg) (evs : List REv)
    (more : Bytes) (hl : frames.length = msgs.length)
    (hacc : ∀ i (h1 : i < frames.length) (h2 : i < msgs.length), Accepts cfg dict frames[i] msgs[i])
    (hne : noEmpty evs) (hflat : flat evs = frames.flatten ++ more) :
    itemsOf cfg dict frames.length evs = msgs.map Msg.item := by
  have hm : msgs.map Msg.item = ((msgs.zip frames).map Prod.fst).map Msg.item := by
    rw [List.map_fst_zip (by omega)]
  rw [itemsOf_decodeSeq, C06_read_all cfg dict frames msgs evs more hl hacc hne hflat, hm, List.map_map,
    List.map_map]
  rfl

/-- the encoding of a consistent, carriable, typed message of admissible depth and of at most 1 MiB is a frame the stream
reader and the decoder accept as exactly that message -/
theorem Accepts_enc (cfg : Cfg) (hf : cfg.tables.Fit) (dict : Lookup) (m : Msg) (hg : m.Good)
    (hh : m.HeaderOk cfg.tables) (hty : TypedList dict m.avps) (h1M : m.length ≤ 1048576)
    (hd : depthList m.avps ≤ cfg.limit) : Accepts cfg dict m.enc.bytes m := by
  have h24 : m.length < 16777216 := by omega
  obtain ⟨_, hdec⟩ := C02_roundtrip cfg hf dict m hg hh hty h24 hd
  have hs := hg.enc_spec h24
  have hlen : m.enc.bytes.length = m.length := by rw [hs.1]; exact hs.2
  refine ⟨hdec, ?_, ?_, ?_⟩ <;> rw [hlen]
  · exact Msg.enc_declaredLen m h24
  · rw [hg.len]; omega
  · exact h1M

/-- server to client, end to end (`C11_server_to_client`): `C08_all_good`, `Accepts_enc` and `itemsOf_frames` composed -/
theorem server_to_client (cfg : Cfg) (hf : cfg.tables.Fit) (dict : Lookup) (frames : List Bytes) (reqs answers : List Msg)
    (evs : List REv) (w : List WEv) (evsC : List REv) (more : Bytes)
    (hl1 : frames.length = reqs.length) (hl2 : answers.length = reqs.length)
    (hacc : ∀ i (h1 : i < frames.length) (h2 : i < reqs.length), Accepts cfg dict frames[i] reqs[i])
    (hans : ∀ a ∈ answers, a.Good ∧ a.HeaderOk cfg.tables ∧ TypedList dict a.avps ∧ a.length ≤ 1048576 ∧
      depthList a.avps ≤ cfg.limit)
    (hne : noEmpty evs) (hflat : flat evs = frames.flatten) (hw : neverFails w)
    (hneC : noEmpty evsC) (hflatC : flat evsC = (serve cfg dict (answers.map .ok) evs w).written ++ more) :
    (serve cfg dict (answers.map .ok) evs w).calls = reqs ∧
    itemsOf cfg dict answers.length evsC = answers.map Msg.item := by
  have hA : ∀ a ∈ answers, a.enc.err = none ∧ Accepts cfg dict a.enc.bytes a := fun a ha => by
    obtain ⟨g, h, t, l, d⟩ := hans a ha
    exact ⟨(C02_roundtrip cfg hf dict a g h t (by omega) d).1, Accepts_enc cfg hf dict a g h t l d⟩
  obtain ⟨c1, c2, _⟩ := C08_all_good cfg dict frames reqs answers evs w hl1 hl2 hacc (fun a ha => (hA a ha).1)
    hne hflat hw
  rw [c2] at hflatC
  have := itemsOf_frames cfg dict (answers.map (fun a => a.enc.bytes)) answers evsC more (List.length_map _)
    (fun i h1 h2 => by simpa using (hA _ (List.getElem_mem h2)).2) hneC hflatC
  rw [List.length_map] at this
  exact ⟨c1, this⟩

end Dia
