import Dia.GlueThm
import Dia.SpecEq
import Dia.Dump
import Dia.Exec
import Dia.Server
import Dia.StreamSeq
import Dia.Fixed
import Dia.ClientPolite
import Dia.ClientMulti
import Dia.ClientMultiPolite
import Dia.Tls
import Dia.Accept
/-! Line-protocol interpreter (DESIGN.md Appendix A): one operation per input line, one answer line
`<impl> | <spec> | <reason>` per operation. Imports model files only (no Mathlib), so it links as an executable. -/
open Dia

structure DState where
  ms : MState := {}
  cfg : Cfg := ⟨fun _ _ => false, 32, {}⟩
  app : Option DocApp := none       -- application element being read
  doc : List DocApp := []           -- document being read (reversed)
  stash : List Doc := []            -- documents waiting for `dconstruct` (reversed)
  saved : Array Msg := #[]          -- messages set aside by `msave` (answers the scripted handler returns)
  frozen : Option Dict := none      -- a copy of the dictionary kept by `freeze` while the current one goes on changing

def Dia.Ty.idx : Ty → Nat
  | .address => 0 | .ipv4 => 1 | .ipv6 => 2 | .identity => 3 | .uri => 4 | .enumerated => 5 | .float32 => 6
  | .float64 => 7 | .grouped => 8 | .integer32 => 9 | .integer64 => 10 | .octets => 11 | .time => 12
  | .unsigned32 => 13 | .unsigned64 => 14 | .utf8 => 15 | .unknown => 16

def pU32 (s : String) : Option UInt32 := s.toNat?.bind fun n => if n < 4294967296 then some n.toUInt32 else none
def pU8 (s : String) : Option UInt8 := s.toNat?.bind fun n => if n < 256 then some n.toUInt8 else none
def pVendor (s : String) : Option (Option UInt32) := if s = "-" then some none else (pU32 s).map some
def pStr (s : String) : Option String := (unhex? s).bind fun b => String.fromUTF8? (ByteArray.mk b.toArray)
def pI32 (s : String) : Option UInt32 :=
  s.toInt?.bind fun i => if -2147483648 ≤ i ∧ i < 2147483648 then some (i % 4294967296).toNat.toUInt32 else none
def pI64 (s : String) : Option UInt64 :=
  s.toInt?.bind fun i =>
    if -9223372036854775808 ≤ i ∧ i < 9223372036854775808 then some (i % 18446744073709551616).toNat.toUInt64 else none
def pU64 (s : String) : Option UInt64 :=
  s.toNat?.bind fun n => if n < 18446744073709551616 then some n.toUInt64 else none
def pBytesN (n : Nat) (s : String) : Option Bytes := (unhex? s).bind fun b => if b.length = n then some b else none
def pUtf8 (s : String) : Option Bytes := (unhex? s).bind fun b => if utf8Valid b then some b else none

def parseValue : List String → Option Value
  | ["u32", n] => (pU32 n).map .unsigned32
  | ["i32", n] => (pI32 n).map .integer32
  | ["enum", n] => (pI32 n).map .enumerated
  | ["u64", n] => (pU64 n).map .unsigned64
  | ["i64", n] => (pI64 n).map .integer64
  | ["f32", h] => (pBytesN 4 h).map fun b => .float32 (fromBe b).toUInt32
  | ["f64", h] => (pBytesN 8 h).map fun b => .float64 (fromBe b).toUInt64
  | ["time", s, n] => s.toInt?.bind fun s => n.toNat?.map fun n => .time s n
  | ["ipv4", h] => (pBytesN 4 h).map .ipv4
  | ["ipv6", h] => (pBytesN 16 h).map .ipv6
  | ["addr4", h] => (pBytesN 4 h).map fun b => .address (.v4 b)
  | ["addr6", h] => (pBytesN 16 h).map fun b => .address (.v6 b)
  | ["e164", h] => (pUtf8 h).map fun b => .address (.e164 b)
  | ["utf8", h] => (pUtf8 h).map .utf8
  | ["ident", h] => (pUtf8 h).map .identity
  | ["oct", h] => (unhex? h).map .octets
  | ["octn", n, b] => n.toNat?.bind fun n => (pBytesN 1 b).map fun b => .octets (List.replicate n (b.getD 0 0))
  | ["uri", h] => (unhex? h).map .uri
  | _ => none

def tyOfApiName (s : String) : Option Ty :=
  if s = "Unknown" then some .unknown else
  let t := tyOfName s
  if t = .unknown then none else some t

def parseOp : List String → Option Op
  | ["new", c, a, f, h, e] => do
    let c ← c.toNat?; let a ← a.toNat?; let f ← pU8 f; let h ← pU32 h; let e ← pU32 e
    pure (.new c a f h e)
  | "val" :: rest => (parseValue rest).map .val
  | ["grp_new"] => some .grpNew
  | ["grp_add_avp", c, v, f] => do let c ← pU32 c; let v ← pVendor v; let f ← pU8 f; pure (.grpAddAvp c v f)
  | ["grp_add"] => some .grpAdd
  | ["avp_new", c, v, f] => do let c ← pU32 c; let v ← pVendor v; let f ← pU8 f; pure (.avpNew c v f)
  | ["avp_name", n] => (pStr n).map .avpName
  | ["add"] => some .add
  | ["add_avp", c, v, f] => do let c ← pU32 c; let v ← pVendor v; let f ← pU8 f; pure (.addAvp c v f)
  | ["add_by_name", n] => (pStr n).map .addByName
  | ["decode", h] => (unhex? h).map .decode
  | ["grp_from_avp", i] => i.toNat?.map .grpFromAvp
  | ["avp_from_msg", i] => i.toNat?.map .avpFromMsg
  | ["reencode"] => some .reencode
  | _ => none

def fxTy (s : String) : Option Ty :=
  match s with
  | "u32" => some .unsigned32 | "i32" => some .integer32 | "enum" => some .enumerated | "f32" => some .float32
  | "time" => some .time | "ipv4" => some .ipv4 | "u64" => some .unsigned64 | "i64" => some .integer64
  | "f64" => some .float64 | "ipv6" => some .ipv6
  | _ => none

/-- `d:<hex>` data chunk, `p` pending, `e` end of stream, `f` i/o error -/
def parseREvs (s : String) : Option (List REv) :=
  if s = "-" then some [] else
  (s.splitOn ",").mapM fun t =>
    -- `i`: the call fails with `Interrupted` - for `read_exact` a failure like any other (the reading stops there)
    if t = "p" then some .pending else if t = "e" then some .eof else if t = "f" || t = "i" then some .fail
    else if t.startsWith "t:" then some .pending      -- a pause in (virtual) time: nothing arrives
    else if t.startsWith "d:" then (unhex? (t.drop 2).toString).map .data else none

/-- `a<k>` accept at most k octets, `p` pending, `f` fail -/
def parseWEvs (s : String) : Option (List WEv) :=
  if s = "-" then some [] else
  -- `i`: the call fails with `Interrupted` - for `write_all` a failure like any other (nothing writes afterwards)
  -- `F<n>`: everything is taken until n octets are on the stream in total, the next call fails: for this model, whose
  -- `write_all` offers all that is left at every call, that is "accept what is missing to n, then fail"
  (s.splitOn ",").foldl (fun (acc : Option (List WEv × Nat)) t =>
    match acc with
    | none => none
    | some (evs, total) =>
      if t = "p" then some (evs ++ [.pending], total)
      else if t = "f" || t = "i" then some (evs ++ [.fail], total)
      else if t.startsWith "a" then
        (t.drop 1).toString.toNat?.map fun k => (evs ++ [.accept k], total + k)
      else if t.startsWith "F" then
        (t.drop 1).toString.toNat?.map fun n =>
          if n > total then (evs ++ [.accept (n - total), .fail], n) else (evs ++ [.fail], total)
      else none) (some ([], 0)) |>.map (·.1)

def sdecLine (cfg : Cfg) (dict : Lookup) (n : Nat) (evs : List REv) : String :=
  String.intercalate ";" ((decodeSeqAll cfg dict n evs).map fun (o, used) =>
    match o with
    | .ok m => "ok:" ++ m.dump ++ "@" ++ toString used
    | .err _ => "err@" ++ toString used
    | .panic => "panic@" ++ toString used)

def bit (b : Bool) : String := if b then "1" else "0"

/-! ### replay of an observed client trace through the transition system (C11, C12) -/

structure RState where
  s : Cl.St := Cl.init
  hist : Cl.Hist := {}
  polite : Bool := true
  answers : List (Nat × Nat) := []      -- the peer's messages still to come, in stream order: (hop-by-hop, uid)
  labels : Nat := 0

def politeB (s : Cl.St) (hs : Cl.Hist) : Cl.Label → Bool
  | .sendBegin h => !hs.usedIds.contains h
  | .peerEmit (.msg m) => s.started.contains m.hbh && !hs.answered.contains m.hbh
  | .peerEmit .bad => false
  | _ => true

def RState.apply (r : RState) (l : Cl.Label) (what : String) : Except String RState :=
  match Cl.step r.s l with
  | some s' =>
    -- the stop of the reader is replayed as a `bad` item; it does not count against the politeness of what came before
    let p := match l with | .peerEmit .bad => true | _ => politeB r.s r.hist l
    .ok { r with s := s', hist := r.hist.step l, polite := r.polite && p, labels := r.labels + 1 }
  | none => .error ("step not enabled in the model: " ++ what)

def readerTag : Cl.Reader → String
  | .running => "running" | .decoded _ => "decoded" | .removed _ _ => "removed" | .stopping => "stopping"
  | .stopped => "stopped"

def replayEvent (r : RState) (ev : String) : Except String RState :=
  match ev.splitOn ":" with
  | ["sb", _] => .ok r
  | ["rd", _] => .ok r
  | ["reg", h] =>
    match h.toNat? with
    | some h =>
      if r.s.closed then .error "registered a waiter although the connection is closed" else r.apply (.sendBegin h) ev
    | none => .error "bad event"
  | ["refused", h] =>
    match h.toNat? with
    | some h => if r.s.closed then r.apply (.sendBegin h) ev else .error "send refused although the connection is open"
    | none => .error "bad event"
  | ["wr", _] => r.apply .write ev
  | ["ret", _, "ok"] => r.apply .sendReturn ev
  | ["ret", _, "err"] => if r.s.send = .idle then .ok r else r.apply .sendFail ev
  | ["rm", h, found] =>
    match h.toNat?, r.answers with
    | some h, (ah, uid) :: rest =>
      if ah ≠ h then .error ("the reader decoded id " ++ toString h ++ " but the peer's next message has id " ++ toString ah) else
      let cached := (r.s.cache h).isSome
      if cached ≠ (found == "1") then .error ("table lookup for id " ++ toString h ++ " found=" ++ found ++
        " but the model's table says " ++ toString cached) else
      match ({ r with answers := rest }).apply (.peerEmit (.msg ⟨h, uid⟩)) ev with
      | .error e => .error e
      | .ok r1 =>
        match r1.apply .readerDecode ev with
        | .error e => .error e
        | .ok r2 => r2.apply .readerRemove ev
    | _, _ => .error "the reader decoded a message the peer did not send"
  | ["dl", _, "1"] => r.apply .readerDeliver ev
  | ["dl", _, "0"] => .error "delivery to a future that was already dropped (outside the model's quantifier)"
  | ["stop"] =>
    match r.s.reader with
    | .stopping => r.apply .readerStop ev
    | .running =>
      match r.apply (.peerEmit .bad) ev with
      | .error e => .error e
      | .ok r1 =>
        match r1.apply .readerDecode ev with
        | .error e => .error e
        | .ok r2 => r2.apply .readerStop ev
    | st => .error ("reader stopped while the model's reader is " ++ readerTag st)
  | _ => .error ("unknown event " ++ ev)

def replayAll : List String → Nat → RState → Except (Nat × String) RState
  | [], _, r => .ok r
  | ev :: rest, k, r =>
    match replayEvent r ev with
    | .ok r' => replayAll rest (k+1) r'
    | .error e => .error (k, e)

def statusOf (s : Cl.St) (w : Nat) : String :=
  match s.status w with
  | .pending => "pending"
  | .got m => "got:" ++ toString m.hbh ++ ":" ++ toString m.uid
  | .dropped => "err"

def ctraceLine (evs answers : String) : String :=
  let ans : List (Nat × Nat) :=
    if answers = "-" then [] else
    (answers.splitOn ",").filterMap fun t =>
      match t.splitOn ":" with
      | [h, u] => match h.toNat?, u.toNat? with | some h, some u => some (h, u) | _, _ => none
      | _ => none
  let events := if evs = "-" then [] else evs.splitOn ","
  match replayAll events 0 { answers := ans } with
  | .error (k, e) => "reject@" ++ toString k ++ " " ++ e
  | .ok r =>
    let res := (List.range r.s.nW).map (statusOf r.s)
    "accept " ++ (if res.isEmpty then "-" else String.intercalate "," res) ++ " | labels=" ++ toString r.labels ++
      " polite=" ++ bit r.polite ++ " reader=" ++ readerTag r.s.reader ++ " closed=" ++ bit r.s.closed ++
      " wire=" ++ toString r.s.wire.length ++ " | -"

/-! ### the same for a client object with several connections (`Dia.Cm`) -/

structure MCState where
  s : Cm.St := Cm.init
  answers : List (List (Nat × Nat)) := []   -- per connection: the peer's messages still to come, in stream order
  labels : Nat := 0
  hist : Cm.Hist := {}
  polite : Bool := true                      -- is the run so far one `C11_multi_delivery` speaks about?

def politeMB (s : Cm.St) (hs : Cm.Hist) : Cm.Label → Bool
  | .sendBegin h => !hs.usedIds.contains h && decide (0 < s.nC)
  | .peerEmit _ (.msg m) => s.started.contains m.hbh && !hs.answered.contains m.hbh
  | .peerEmit _ .bad => false
  | _ => true

def MCState.apply (r : MCState) (l : Cm.Label) (what : String) : Except String MCState :=
  match Cm.step r.s l with
  | some s' =>
    -- (the stop of a reader is replayed as a `bad` item; it does not count against the politeness of what came before)
    let p := match l with | .peerEmit _ .bad => true | _ => politeMB r.s r.hist l
    .ok { r with s := s', labels := r.labels + 1, hist := r.hist.step l, polite := r.polite && p }
  | none => .error ("step not enabled in the model: " ++ what)

def MCState.applyAll (r : MCState) (ls : List Cm.Label) (what : String) : Except String MCState :=
  ls.foldl (fun acc l => match acc with | .ok r => r.apply l what | .error e => .error e) (.ok r)

/-- `name@c` -> (name, c) -/
def splitAt? (t : String) : Option (String × Nat) :=
  match t.splitOn "@" with
  | [a, c] => c.toNat?.map fun c => (a, c)
  | _ => none

def replayEventM (r : MCState) (ev : String) : Except String MCState :=
  match ev.splitOn ":" with
  | ["sb", _] => .ok r
  | ["conn"] => r.apply .connect ev
  | ["reg", h] =>
    match h.toNat? with
    | some h =>
      if r.s.nC = 0 then .error "registered a waiter although no connection was ever attached" else
      if r.s.closed then .error "registered a waiter although the table is closed" else r.apply (.sendBegin h) ev
    | none => .error "bad event"
  | ["refused", h] =>
    match h.toNat? with
    | some h => if r.s.closed then r.apply (.sendBegin h) ev else .error "send refused although the table is open"
    | none => .error "bad event"
  | ["ret", _, "ok"] => r.apply .sendReturn ev
  | ["ret", _, "err"] => if r.s.send = .idle then .ok r else r.apply .sendFail ev
  | [t, x] =>
    match splitAt? t with
    | some ("wr", c) =>
      if c + 1 ≠ r.s.nC then .error ("request octets went to connection " ++ toString c ++ " although the latest is " ++ toString (r.s.nC - 1))
      else r.apply .write ev
    | some ("rd", _) => let _ := x; .ok r
    | _ => .error ("unknown event " ++ ev)
  | [t, h, flag] =>
    match splitAt? t, h.toNat? with
    | some ("rm", c), some h =>
      match r.answers[c]? with
      | some ((ah, uid) :: rest) =>
        if ah ≠ h then .error ("reader " ++ toString c ++ " decoded id " ++ toString h ++ " but its peer's next message has id " ++ toString ah) else
        let cached := (r.s.cache h).isSome
        if cached ≠ (flag == "1") then .error ("table lookup for id " ++ toString h ++ " found=" ++ flag ++
          " but the model's table says " ++ toString cached) else
        ({ r with answers := r.answers.set c rest }).applyAll
          [.peerEmit c (.msg ⟨h, uid⟩), .readerDecode c, .readerRemove c] ev
      | _ => .error ("reader " ++ toString c ++ " decoded a message its peer did not send")
    | some ("dl", c), some _ =>
      if flag == "1" then r.apply (.readerDeliver c) ev
      else .error "delivery to a future that was already dropped (outside the model's quantifier)"
    | _, _ => .error ("unknown event " ++ ev)
  | [t] =>
    match splitAt? t with
    | some ("stop", c) =>
      match r.s.reader c with
      | .stopping => r.apply (.readerStop c) ev
      | .running => r.applyAll [.peerEmit c .bad, .readerDecode c, .readerStop c] ev
      | st => .error ("reader " ++ toString c ++ " stopped while the model's reader is " ++ readerTag st)
    | _ => .error ("unknown event " ++ ev)
  | _ => .error ("unknown event " ++ ev)

def replayAllM : List String → Nat → MCState → Except (Nat × String) MCState
  | [], _, r => .ok r
  | ev :: rest, k, r =>
    match replayEventM r ev with
    | .ok r' => replayAllM rest (k+1) r'
    | .error e => .error (k, e)

def statusOfM (s : Cm.St) (w : Nat) : String :=
  match s.status w with
  | .pending => "pending"
  | .got m => "got:" ++ toString m.hbh ++ ":" ++ toString m.uid
  | .dropped => "err"

def ctracemLine (evs answers : String) : String :=
  let per : List (List (Nat × Nat)) :=
    if answers = "-" then [] else
    (answers.splitOn ";").map fun part =>
      if part = "" || part = "-" then [] else
      (part.splitOn ",").filterMap fun t =>
        match t.splitOn ":" with
        | [h, u] => match h.toNat?, u.toNat? with | some h, some u => some (h, u) | _, _ => none
        | _ => none
  let events := if evs = "-" then [] else evs.splitOn ","
  match replayAllM events 0 { answers := per } with
  | .error (k, e) => "reject@" ++ toString k ++ " " ++ e
  | .ok r =>
    let res := (List.range r.s.nW).map (statusOfM r.s)
    let anyStopped := (List.range r.s.nC).any fun c => r.s.reader c == Cl.Reader.stopped
    "accept " ++ (if res.isEmpty then "-" else String.intercalate "," res) ++ " | labels=" ++ toString r.labels ++
      " readers=" ++ String.intercalate "." ((List.range r.s.nC).map fun c => readerTag (r.s.reader c)) ++
      " closed=" ++ bit r.s.closed ++ " anystopped=" ++ bit anyStopped ++ " polite=" ++ bit r.polite ++ " | -"

/-! ### real-socket scenarios: predictions of the TLS table (C13) and of the listener model (C10) -/

def kvOf (toks : List String) (k : String) : Option String :=
  toks.findSome? fun t => match t.splitOn "=" with | [a, b] => if a = k then some b else none | _ => none

def tlsLine (toks : List String) : String :=
  let b (k : String) := kvOf toks k == some "1"
  let cert : Tls.Cert := match kvOf toks "cert" with
    | some "wrongname" => .wrongName | some "untrusted" => .untrusted | _ => .good
  let addr : Tls.AddrKind := match kvOf toks "addr" with | some "ip" => .ip | some "ip6" => .ip6 | _ => .host
  let c : Tls.Cell := ⟨b "ctls", b "verify", b "stls", cert, addr⟩
  -- `cert=weak`: an identity the TLS library refuses to build an acceptor from: `listen` fails, nobody is served
  if kvOf toks "cert" == some "weak" then
    "refused clear=0 answered=0 served=0 | refused | -" else
  -- the implementation column comes from the general glue (`Tls.gOutcome`: any address text, any certificate) applied to the
  -- address the scenario really uses and to the names the scenario's certificate really carries (`wn=` picks among the
  -- "trusted, wrong name" certificates of the harness); the specification column is the table
  let port := ((kvOf toks "port").filter (· != "0")).getD "3868"
  let address := Tls.addressOf addr port.toList
  let names : List (List Char) := match kvOf toks "cert", kvOf toks "wn", addr with
    | some "wrongname", some "1", .host => [Tls.nOther, Tls.nIp4, Tls.nIp6]            -- the right addresses, asked for by name
    | some "wrongname", some "1", _ => [Tls.nLocalhost, Tls.nOther, Tls.nOtherIp]     -- the right name, asked for by address
    | some "wrongname", _, _ => [Tls.nOther, Tls.nOtherIp]
    | _, _, _ => [Tls.nLocalhost, Tls.nIp4, Tls.nIp6]
  let o := Tls.gOutcome c.clientTls c.verify c.serverTls address ⟨Tls.trusted cert, names⟩
  let cls := match o with | .session => "session" | .plain => "plain" | .refused => "refused"
  let answered := o != .refused
  cls ++ " clear=" ++ bit (Tls.clearText c) ++ " answered=" ++ bit answered ++ " served=" ++ bit answered ++
    " | " ++ (match Tls.expected c with | .session => "session" | .plain => "plain" | .refused => "refused") ++ " | -"

/-- `tlsre`: one client object (TLS on), two connections; each is decided by the configuration and the certificate it meets -/
def tlsreLine (toks : List String) : String :=
  let verify := kvOf toks "verify" == some "1"
  let certOf (k : String) : Tls.Cert := match kvOf toks k with
    | some "wrongname" => .wrongName | some "untrusted" => .untrusted | _ => .good
  let cls (c : Tls.Cert) := match Tls.outcome ⟨true, verify, true, c, .ip⟩ ['3', '8', '6', '8'] with
    | .session => "session" | .plain => "plain" | .refused => "refused"
  let spec (c : Tls.Cert) := match Tls.expected ⟨true, verify, true, c, .ip⟩ with
    | .session => "session" | .plain => "plain" | .refused => "refused"
  cls (certOf "c1") ++ " " ++ cls (certOf "c2") ++ " | " ++ spec (certOf "c1") ++ " " ++ spec (certOf "c2") ++ " | -"

def faultItems (kind : String) (k : Nat) : List Acc.Item × Bool :=   -- (what the peer sends, does it finish a handshake)
  match kind with
  | "none" => ([], true)
  | "stall_handshake" => ([], false)
  | "half_hello" => ([], false)
  | "malformed" => ([.req (900000 + k), .bad], true)
  | "deepnest" => ([.bad], true)
  | "unknown_avp" => ([.req (940000 + k), .bad], true)
  | "oversized" => ([.bad], true)
  | "short" => ([.bad], true)
  | "stall_midframe" => ([], true)
  | "stall_announce_max" => ([], true)
  | "reset" => ([.req (910000 + k), .close], true)
  | "panic" => ([.boom (920000 + k)], true)
  | "panic_sync" => ([.boom (925000 + k)], true)
  | "garbage_close" => ([.bad, .close], true)
  | "hello_close" => ([.bad, .close], true)
  | "plain_req_close" => ([.req (930000 + k), .close], true)
  | _ => ([], true)

def lsnLine (toks : List String) : String :=
  let n (k : String) (d : Nat) := ((kvOf toks k).bind String.toNat?).getD d
  let tls := kvOf toks "tls" == some "1"
  let good := n "good" 1
  let reqs := n "reqs" 3
  let nf := if kvOf toks "fault" == some "none" then 0 else n "nfaulty" 1
  let kind := (kvOf toks "fault").getD "none"
  let cfg : Acc.Cfg := ⟨tls, false⟩
  -- connections: 0..good-1 well behaved, good..good+nf-1 faulty, good+nf the late one
  let conns : List (Nat × List Acc.Item × Bool) :=
    ((List.range good).map fun c => (c, (List.range reqs).map (fun i => Acc.Item.req (c * 1000 + i)), true)) ++
    ((List.range nf).map fun k => (good + k, (faultItems kind k).1,
        -- what is no TLS handshake never completes one on a TLS listener
        (faultItems kind k).2 && !(tls && (kind == "garbage_close" || kind == "hello_close" || kind == "plain_req_close")))) ++
    [(good + nf, [.req 770000, .req 770001], true)]
  let stepOr (s : Acc.St) (l : Acc.Label) : Acc.St := (Acc.step cfg s l).getD s
  let s := conns.foldl (fun s (c, _, _) => stepOr s (.arrive c)) ({} : Acc.St)
  let s := conns.foldl (fun s (c, _, _) => stepOr s (.accept c)) s
  let s := conns.foldl (fun s (c, _, hs) => if hs then stepOr s (.hsDone c) else s) s
  let s := conns.foldl (fun s (c, items, _) => items.foldl (fun s it => stepOr s (.send c it)) s) s
  let s := conns.foldl (fun s (c, items, _) => Acc.serveAll cfg c (items.length + 1) s) s
  let per := (List.range good).map fun c => toString (s.out c).length
  "clients=" ++ String.intercalate "," per ++ " astray=0 late=" ++ toString (s.out (good + nf)).length ++ " | - | -"

/-- real-TCP client scenario (supporting evidence for C11/C12): every request whose 32-octet answer was completely
sent before the cut holds its own answer, every other future fails; without a cut every future holds its own answer -/
def ctcpLine (toks : List String) : String :=
  let n := ((kvOf toks "n").bind String.toNat?).getD 1
  let perm : List Nat := ((kvOf toks "perm").getD "").splitOn "." |>.filterMap String.toNat?
  let cut : Option Nat := (kvOf toks "cut").bind String.toNat?
  let base : Nat := ((((kvOf toks "id").bind String.toNat?).getD 0) * 1000 + 17) % 4294967296
  let delivered : List Nat := match cut with
    | none => perm
    | some c => perm.take (c / 32)
  let res := (List.range n).map fun i =>
    let h := (base + i) % 4294967296
    if delivered.contains i then "got:" ++ toString h ++ ":" ++ toString (h ^^^ 0xabcd) else "err"
  "res=" ++ String.intercalate "," res ++ " | - | -"

def statusStr : Status → String
  | .ok => "ok" | .err => "err" | .bad => "bad"

def errName : Err → String
  | .eof => "eof" | .unknownAvp => "unknownAvp" | .mismatch => "mismatch" | .fuel => "fuel" | .short => "short"
  | .deep => "deep" | .utf8 => "utf8" | .addr => "addr" | .cmd => "cmd" | .app => "app" | .timeRange => "timeRange"
  | .tooLong => "tooLong"


def encStr (e : Enc) : String :=
  match e.err with
  | none => "ok " ++ hexOrDash e.bytes
  | some _ => "err"

/-- `dec <hex>`: the code's decoder (probed configuration), the strict RFC reader, and why -/
def decLine (cfg : Cfg) (D : Dict) (bs : Bytes) : String :=
  let impl := decMsg cfg D.lookup bs
  let strict := decMsg (strictCfg bs.length cfg.tables) D.lookup bs   -- the reader of `Spec.read` (C03_read_correct)
  let implS := match impl with
    | .ok m => "ok " ++ m.dump ++ " " ++ (match m.enc.err with | none => hexOrDash m.enc.bytes | some _ => "encerr") ++
        " " ++ toString m.length
    | .err _ => "err"
    | .panic => "panic"
  let specS := match strict with
    | .ok m => "ok " ++ m.dump ++ " " ++ (match m.enc.err with | none => hexOrDash m.enc.bytes | some _ => "encerr") ++
        " " ++ toString m.length ++ " depth=" ++ toString (depthList m.avps)
    | .err _ => "rej"
    | .panic => "rej"
  let why := match impl with
    | .ok m => "ok lie=" ++ bit (!noLieListB m.avps) ++ " depth=" ++ toString (depthList m.avps) ++
        " n=" ++ toString m.avps.length ++ " full=" ++ bit (bs.length == m.length) ++
        " lieTys=" ++ String.intercalate "," ((lieTysList m.avps).eraseDups.map Ty.name)
    | .err e => "e=" ++ errName e ++ " full=" ++ bit (bs.length == fromBe ((bs.take 4).drop 1))
    | .panic => "panic"
  implS ++ " | " ++ specS ++ " | " ++ why

def defsNamed (D : Dict) (n : String) : List Def := (D.avps.filter fun kd => kd.2.name = n).map (·.2)

def step (s : DState) (line : String) : DState × String :=
  let toks := line.trimAscii.toString.splitOn " "
  -- `repeat <n> <probe ...>`: the harness runs the probe n times on one thread (state that builds up inside the library
  -- must not show); probes are functions of the state, so the model runs it once
  let toks := match toks with
    | "repeat" :: _ :: rest => rest
    | _ => toks
  let plain (st : DState) (a : String) : DState × String := (st, a ++ " | - | -")
  match toks with
  | "cfg" :: limit :: sh :: lo :: rest =>
    -- the probed parameters of the code: nesting limit, leniency per fixed-size type, and (optionally) the command-code
    -- and application-id tables `cmds=a,b,.. apps=x,y,..`; tables that do not fit the header fields (the hypothesis
    -- `Tables.Fit` of the C02/C03 theorems) are refused
    let listOf (k : String) (d : List Nat) : Option (List Nat) :=
      match rest.findSome? fun t => if t.startsWith (k ++ "=") then some ((t.drop (k.length + 1)).toString) else none with
      | none => some d
      | some v => if v = "" then some [] else (v.splitOn ",").mapM String.toNat?
    match limit.toNat?, listOf "cmds" ({} : Tables).cmds, listOf "apps" ({} : Tables).apps with
    | some l, some cmds, some apps =>
      let shl := sh.toList; let lol := lo.toList
      let f : Ty → Dir → Bool := fun t d =>
        match d with
        | .shorter => shl.getD t.idx '0' == '1'
        | .longer => lol.getD t.idx '0' == '1'
      let T : Tables := ⟨cmds, apps⟩
      if T.fitB then plain { s with cfg := ⟨f, l, T⟩ } "ok" else plain s "tables-do-not-fit"
    | _, _, _ => plain s "bad-op"
  | ["dreset"] => plain { s with ms := { s.ms with dict := {} } } "ok"
  | ["dadd", c, v, n, t, m] =>
    match pU32 c, pVendor v, pStr n, tyOfApiName t with
    | some c, some v, some n, some t =>
      plain { s with ms := { s.ms with dict := s.ms.dict.add ⟨c, v, n, t, m == "1"⟩ } } "ok"
    | _, _, _, _ => plain s "bad-op"
  | ["parname", _, n] =>
    -- several threads looking the name up at once get what one thread gets: whether the dictionary carries the name
    match pStr n with
    | some n => plain s (if (s.ms.dict.getByName n).isSome then "ok" else "err")
    | none => plain s "bad-op"
  | ["gdstorm", _] => plain s "ok"                -- another thread busy with the process-wide default dictionary: no effect here
  | ["iomode", _] => plain s "."                 -- vectored writes / how the reader fills its buffer: invisible to the model
  | ["gdadd", _, _, _, _, _] => plain s "ok"      -- the process-wide default dictionary is another object: no effect here
  | ["dbuiltin"] =>
    -- a new object from the built-in document; the cases that use it query a reserved universe the document does not
    -- touch, for which the empty dictionary answers as the built-in one does
    plain { s with ms := { s.ms with dict := {} } } "ok"
  | ["doc_begin"] => plain { s with app := none, doc := [] } "ok"
  | ["app", id, n] =>
    match id.toNat?, pStr n with
    | some id, some n =>
      let doc := match s.app with | some a => a :: s.doc | none => s.doc
      plain { s with app := some ⟨id, n, [], []⟩, doc := doc } "ok"
    | _, _ => plain s "bad-op"
  | ["cmd", c, n] =>
    match c.toNat?, pStr n, s.app with
    | some c, some n, some a => plain { s with app := some { a with cmds := a.cmds ++ [(c, n)] } } "ok"
    | _, _, _ => plain s "bad-op"
  | ["avp", n, c, v, must, t, _items] =>
    -- the number of <item> children under the data element: documentation, no effect on the definition
    match pStr n, pU32 c, pVendor v, (if must = "~" then some none else (pStr must).map some), pStr t, s.app with
    | some n, some c, some v, some must, some t, some a =>
      if _items.toNat?.isNone then plain s "bad-op" else
      plain { s with app := some { a with avps := a.avps ++ [⟨n, c, v, must, t⟩] } } "ok"
    | _, _, _, _, _, _ => plain s "bad-op"
  | ["avp", n, c, v, must, t] =>
    match pStr n, pU32 c, pVendor v, (if must = "~" then some none else (pStr must).map some), pStr t, s.app with
    | some n, some c, some v, some must, some t, some a =>
      plain { s with app := some { a with avps := a.avps ++ [⟨n, c, v, must, t⟩] } } "ok"
    | _, _, _, _, _, _ => plain s "bad-op"
  | "doc_end" :: mode :: _ =>
    let doc := (match s.app with | some a => a :: s.doc | none => s.doc).reverse
    if !docOk s.cfg.tables doc then plain { s with app := none, doc := [] } "bad-op" else
    if mode = "stash" then plain { s with app := none, doc := [], stash := doc :: s.stash } "ok"
    else plain { s with app := none, doc := [], ms := { s.ms with dict := s.ms.dict.loadDoc doc } } "ok"
  | ["dconstruct"] =>
    let D := s.stash.reverse.foldl Dict.loadDoc Dict.empty
    plain { s with stash := [], ms := { s.ms with dict := D } } "ok"
  | ["dget", c, v] =>
    match pU32 c, pVendor v with
    | some c, some v =>
      plain s (match s.ms.dict.get c v with | some d => d.dump | none => "none")
    | _, _ => plain s "bad-op"
  | ["dbyname", n] =>
    match pStr n with
    | some n =>
      let live := defsNamed s.ms.dict n
      (s, (match s.ms.dict.getByName n with | some d => d.dump | none => "none") ++ " | live:" ++
        String.intercalate ";" (live.map Def.dump) ++ " | n=" ++ toString live.length)
    | none => plain s "bad-op"
  | ["dapp", n] =>
    match pStr n with
    | some n => plain s (match s.ms.dict.appByName n with | some x => toString x | none => "none")
    | none => plain s "bad-op"
  | ["dcmd", n] =>
    match pStr n with
    | some n => plain s (match s.ms.dict.cmdByName n with | some x => toString x | none => "none")
    | none => plain s "bad-op"
  | ["dsize"] => plain s (toString s.ms.dict.avps.length)
  | ["tables"] =>
    -- the tables the model works with (probed by `hx probe`), against a second enumeration on the code by this op
    let sorted (l : List Nat) : List Nat := (l.mergeSort (· ≤ ·)).eraseDups
    plain s ("cmds=" ++ String.intercalate "," ((sorted s.cfg.tables.cmds).map toString) ++ " apps=" ++
      String.intercalate "," ((sorted s.cfg.tables.apps).map toString))
  | ["clear"] => plain { s with ms := { s.ms with stack := [] } } "ok"
  | ["enc"] =>
    let m := s.ms.msg
    (s, encStr m.enc ++ " | " ++ hexOrDash (Spec.encode m.abs) ++ " | wf=" ++ bit (wfListB m.avps) ++ " cons=" ++
      bit (consListB m.avps && m.length == 20 + lenList m.avps) ++ " small=" ++ bit (decide (m.length < 16777216)))
  | ["ench"] =>
    let m := s.ms.msg
    let sp := Spec.encode m.abs
    (s, (match m.enc.err with
          | none => "ok " ++ toString m.enc.bytes.length ++ " " ++ toString (fnv m.enc.bytes).toNat
          | some _ => "err") ++ " | " ++ toString sp.length ++ " " ++ toString (fnv sp).toNat ++ " | rep=" ++
      bit m.repB ++ " wf=" ++ bit (wfListB m.avps) ++ " cons=" ++
      bit (consListB m.avps && m.length == 20 + lenList m.avps))
  | ["encha"] =>
    let m := s.ms.msg
    let one (a : Avp) : String := match (encList [a]).err with
      | none => "ok:" ++ toString (encList [a]).bytes.length ++ ":" ++ toString (fnv (encList [a]).bytes).toNat
      | some _ => "err"
    let r := if m.avps.isEmpty then "-" else ";".intercalate (m.avps.map one)
    (s, r ++ " | " ++ r ++ " | -")
  | "encw" :: k :: _ =>
    match k.toNat? with
    | some k =>
      let m := s.ms.msg
      let (ok, acc) := encTo m k
      let sp := Spec.encode m.abs
      (s, (if ok then "ok " ++ toString acc.length ++ " " ++ toString (fnv acc).toNat else "err") ++ " | " ++
        toString sp.length ++ " " ++ toString (fnv sp).toNat ++ " | rep=" ++ bit m.repB ++ " total=" ++
        toString m.enc.bytes.length ++ " cons=" ++ bit (consListB m.avps && m.length == 20 + lenList m.avps) ++
        " wf=" ++ bit (wfListB m.avps))
    | none => plain s "bad-op"
  | ["len"] =>
    let m := s.ms.msg
    (s, toString m.length ++ " | " ++ toString (Spec.encode m.abs).length ++ " | wf=" ++ bit (wfListB m.avps) ++
      " cons=" ++ bit (consListB m.avps && m.length == 20 + lenList m.avps) ++ " small=" ++
      bit (decide (m.length < 16777216)))
  | ["dump"] => plain s s.ms.msg.dump
  | ["vlen"] =>
    -- what the value (`AvpValue::length()`) or AVP (`get_length()`, `get_padding()`) on top of the stack says about itself
    plain s (match s.ms.stack with
      | .val v :: _ => "val " ++ toString v.len
      | .avp a :: _ => "avp " ++ toString a.len ++ " " ++ toString a.padding
      | [] => "-")
  | ["rt"] =>
    let m := s.ms.msg
    let r := match m.enc.err with
      | some _ => "encerr"
      | none =>
        match decMsg s.cfg s.ms.dict.lookup m.enc.bytes with
        | .ok m' => m'.dump
        | .err _ => "err"
        | .panic => "panic"
    (s, r ++ " | " ++ m.dump ++ " | typed=" ++ bit (typedListB s.ms.dict.lookup m.avps) ++ " depth=" ++
      toString (depthList m.avps) ++ " wf=" ++ bit (wfListB m.avps) ++ " cons=" ++
      bit (consListB m.avps && m.length == 20 + lenList m.avps) ++ " n=" ++ toString m.avps.length)
  | ["get", c] =>
    match pU32 c with
    | some c => plain s (match s.ms.msg.getAvpIdx c with | some i => toString i | none => "-")
    | none => plain s "bad-op"
  | ["acc"] => plain s ("[" ++ accDumpList s.ms.msg.avps ++ "]")
  | ["dec", h] =>
    match unhex? h with
    | some bs => (s, decLine s.cfg s.ms.dict bs)
    | none => plain s "bad-op"
  | ["decat", _k, h] =>
    -- the same frame behind `k` other octets, the reader positioned at its first octet: the position is immaterial
    match unhex? h with
    | some bs => (s, decLine s.cfg s.ms.dict bs)
    | none => plain s "bad-op"
  | "tls" :: rest => (s, tlsLine rest)
  | "tlsre" :: rest => (s, tlsreLine rest)
  | ["cliflood", _] => (s, "pending=0 got=0 late=fails,fails,fails | pending=0 got=0 late=fails,fails,fails | -")
  | "tlsrude" :: _ => (s, "refused clear=0 conns=1 | refused | -")   -- a failed handshake is a refusal, whatever `verify` says
  | ["amode", _] => plain s "."                -- how the application waits for its futures is invisible to the model
  | ["rmode", _] => plain s "."                -- how the reader hands out the octets is invisible to the model
  | ["ctracem", evs, ans] => (s, ctracemLine evs ans)
  | ["cliswitch", _] => plain s "first=err reader1_stopped=1"
  | ["tlsq", cells] =>
    -- cells of the table one after the other in one process: each cell's prediction is the cell's own (no state is carried)
    let parts := (cells.splitOn ";").map fun c => (tlsLine (c.splitOn ",")).splitOn " | "
    (s, String.intercalate " ; " (parts.map fun p => p.getD 0 "") ++ " | " ++
        String.intercalate ";" (parts.map fun p => p.getD 1 "") ++ " | -")
  | "lsnpipe" :: rest =>
    -- n pipelined requests, then one on which the handler fails: `serve` writes the n answers, then stops (C08_handler_fails)
    plain s ("answers=" ++ ((kvOf rest "n").getD "0") ++ " end=eof")
  | "lsn" :: rest => (s, lsnLine rest)
  | "ctcp" :: rest => (s, ctcpLine rest)
  | ["ctrace", evs, answers] => (s, ctraceLine evs answers)
  | ["msave"] => plain { s with saved := s.saved.push s.ms.msg, ms := { s.ms with msg := Msg.new 272 4 0 0 0 } } "ok"
  | ["mclear"] => plain { s with saved := #[] } "ok"
  | ["envchild", _, _, _] => plain s "ok"         -- a frame that is fine under the built-in dictionary, in a fresh process
  | ["env", _, _] => plain s "."                -- environment variables of the process: invisible to the model
  | ["freeze"] => plain { s with frozen := some s.ms.dict } "."
  | ["fbyname", n] =>
    -- a by-name construction through the copy kept by `freeze`: it answers from what that copy held, whatever has been
    -- declared in the current dictionary since
    match pStr n, s.frozen with
    | some n, some D =>
      -- (several live definitions with that name: any of them is a correct pick, `ok:*`)
      plain s (match D.getByName n with
        | some d =>
          if (defsNamed D n).length > 1 then "ok:*" else
          "ok:" ++ toString d.code ++ ":" ++ (match d.vendor with | some v => toString v | none => "-") ++ ":" ++ bit d.m
        | none => "err")
    | _, _ => plain s "bad-op"
  | ["sdecnt", n, evs] =>
    match n.toNat?, parseREvs evs with
    | some n, some evs => plain s (sdecLine s.cfg s.ms.dict.lookup n evs)
    | _, _ => plain s "bad-op"
  | ["sdec", n, evs] =>
    match n.toNat?, parseREvs evs with
    | some n, some evs => plain s (sdecLine s.cfg s.ms.dict.lookup n evs)
    | _, _ => plain s "bad-op"
  | ["senc", w] =>
    match parseWEvs w with
    | some w =>
      let (ok, wr) := Codec.encodeTo s.ms.msg w
      (s, (if ok then "ok " else "err ") ++ hexOrDash wr ++ " | " ++ hexOrDash (Spec.encode s.ms.msg.abs) ++ " | -")
    | none => plain s "bad-op"
  | ["sdecmany", n, h] =>
    -- the same acceptable frame n times over one stream, then four hostile announcements on fresh streams
    match n.toNat?, unhex? h with
    | some n, some bs =>
      let r := Codec.decode s.cfg s.ms.dict.lookup [.data bs]
      let okN := match r.out with | .ok _ => n | _ => 0
      let hostile := [[1, 0, 0, 0], [1, 0, 0, 19], [1, 0x10, 0, 1], [1, 0xff, 0xff, 0xff]].map fun (pre : Bytes) =>
        let q := Codec.decode s.cfg s.ms.dict.lookup [.data pre, .data (List.replicate 64 0)]
        (match q.out with | .ok _ => "ok" | _ => "err") ++ "@" ++ toString q.consumed
      plain s ("ok=" ++ toString okN ++ " consumed=" ++ toString (if okN = 0 then r.consumed else n * bs.length) ++
        " hostile=" ++ String.intercalate "," hostile)
    | _, _ => plain s "bad-op"
  | ["servemany", n, h] =>
    -- one connection carrying n copies of an acceptable request, each answered with saved message 0
    match n.toNat?, unhex? h, s.saved[0]? with
    | some n, some bs, some a =>
      let one := serve s.cfg s.ms.dict.lookup [HRes.ok a] [.data bs] []
      if one.calls.length = 1 && one.written.length > 0 then
        plain s ("calls=" ++ toString n ++ " consumed=" ++ toString (n * bs.length) ++ " written=" ++
          toString (n * one.written.length) ++ " end=done")
      else plain s "bad-op"
    | _, _, _ => plain s "bad-op"
  | ["serve", hs, rd, wr] =>
    let hres : Option (List HRes) :=
      if hs = "-" then some [] else
      (hs.splitOn ",").mapM fun t =>
        -- (`~<ms>` / `~y<k>` behind a result: how long the handler's future takes is invisible to the model)
        let t := (t.splitOn "~").headD t
        if t = "err" then some HRes.err
        else if t.startsWith "a" then (t.drop 1).toString.toNat?.bind fun i => s.saved[i]?.map HRes.ok else none
    match hres, parseREvs rd, parseWEvs wr with
    | some hres, some rd, some wr =>
      let log := serve s.cfg s.ms.dict.lookup hres rd wr
      -- spec column: the RFC encodings of the handler's answers, in script order, up to the first handler failure or
      -- the first answer the wire cannot carry - whatever is written must be a prefix of this
      let specW : Bytes := (hres.foldl (fun (acc : Bytes × Bool) h =>
        if acc.2 then acc else
        match h with
        | .ok a => if a.repB then (acc.1 ++ Spec.encode a.abs, false) else (acc.1, true)
        | .err => (acc.1, true)) ([], false)).1
      (s, "calls=[" ++ String.intercalate ";" (log.calls.map Msg.dump) ++ "] written=" ++ hexOrDash log.written ++
        " end=done | " ++ hexOrDash specW ++ " | -")
    | _, _, _ => plain s "bad-op"
  | ["fx", t, h] =>
    match fxTy t, unhex? h with
    | some ty, some bs =>
      if bs.length = (fixedSize ty).getD 0 then plain s (fxLine ty bs) else plain s "bad-op"
    | _, _ => plain s "bad-op"
  | ["psweep", t, lo, n, blk, _threads] =>
    -- the same blocks, swept by several threads at once on the code's side: the checksums are those of `sweep`
    match fxTy t, lo.toNat?, n.toNat?, blk.toNat? with
    | some ty, some lo, some n, some blk =>
      if blk = 0 then plain s "bad-op" else
      let sums := (List.range (n / blk)).map fun k => toString (sweepFold ty blk (lo + k * blk) 0).toNat
      plain s (String.intercalate "," sums)
    | _, _, _, _ => plain s "bad-op"
  | ["sweep", t, lo, n, blk] =>
    match fxTy t, lo.toNat?, n.toNat?, blk.toNat? with
    | some ty, some lo, some n, some blk =>
      if blk = 0 then plain s "bad-op" else
      let sums := (List.range (n / blk)).map fun k => toString (sweepFold ty blk (lo + k * blk) 0).toNat
      plain s (String.intercalate "," sums)
    | _, _, _, _ => plain s "bad-op"
  | ["deca", h] =>
    -- the public `Avp::decode_from` on a cursor: outcome, the AVP, and where the cursor stands afterwards (it may have
    -- been moved past the end by the padding seek)
    match unhex? h with
    | some bs =>
      plain s (match decAvp s.cfg s.ms.dict.lookup (bs.length + 2) 0 (.inRange bs) with
        | .ok (a, c) => "ok " ++ a.dump ++ " pos=" ++ toString (match c with
            | .inRange r => bs.length - r.length | .past o => bs.length + o + 1)
        | .err _ => "err"
        | .panic => "panic")
    | none => plain s "bad-op"
  | ["decg", len, h] =>
    -- the public `Grouped::decode_from(reader, len, dict)`
    match len.toNat?, unhex? h with
    | some len, some bs =>
      plain s (if 1 > s.cfg.limit then "err" else
        match decGroup s.cfg s.ms.dict.lookup (bs.length + 2) 1 len 0 (.inRange bs) with
        | .ok (ms, c) => "ok [" ++ dumpList ms ++ "] pos=" ++ toString (match c with
            | .inRange r => bs.length - r.length | .past o => bs.length + o + 1)
        | .err _ => "err"
        | .panic => "panic")
    | _, _ => plain s "bad-op"
  | ["decq", h] =>
    -- C04: outcome class only (no strict column: it would recurse as deep as the frame nests)
    match unhex? h with
    | some bs =>
      (s, match decMsg s.cfg s.ms.dict.lookup bs with
        | .ok m => "ok | - | ok depth=" ++ toString (depthList m.avps) ++ " n=" ++ toString m.avps.length ++
            " enc=" ++ (match m.enc.err with | none => "ok" | some e => errName e)
        | .err e => "err | - | e=" ++ errName e
        | .panic => "panic | - | panic")
    | none => plain s "bad-op"
  | _ =>
    match parseOp toks with
    | some op =>
      let (ms, st) := s.ms.step s.cfg op
      -- for the by-name operations the oracle column names the definition the dictionary declares (C16)
      let spec := match op with
        | .addByName n | .avpName n =>
          (match s.ms.dict.getByName n with | some d => "def:" ++ d.dump | none => "def:none") ++
            " | n=" ++ toString (defsNamed s.ms.dict n).length ++ " live=" ++
            String.intercalate ";" ((defsNamed s.ms.dict n).map Def.dump)
        | _ => "- | -"
      ({ s with ms := ms }, statusStr st ++ " | " ++ spec)
    | none => plain s "bad-op"

partial def loop (h : IO.FS.Stream) (out : IO.FS.Stream) (s : DState) : IO Unit := do
  let line ← h.getLine
  if line.isEmpty then return ()
  if line.startsWith "#" then
    out.putStrLn "#"
    loop h out s
  else
    let (s', o) := step s line
    out.putStrLn o
    loop h out s'

def main : IO Unit := do loop (← IO.getStdin) (← IO.getStdout) {}
